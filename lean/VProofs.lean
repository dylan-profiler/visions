/- The lemma modules.  Each property module under `Props` is built as a target of its own (`tools/setup.sh`), the obligation files as
   imports of those. -/
import VProofs.Lemmas.ListL
import VProofs.Lemmas.Pure
import VProofs.Lemmas.Refine
import VProofs.Lemmas.Full
import VProofs.Lemmas.Backend
import VProofs.Lemmas.GraphL
import VProofs.Lemmas.FiniteL
import VProofs.Lemmas.SortL
import VProofs.Lemmas.LRUL
import VProofs.Lemmas.Pointwise
import VProofs.Lemmas.PandasL
import VProofs.Lemmas.PandasCells
import VProofs.Lemmas.PandasRel
import VProofs.Lemmas.Table
import VProofs.Lemmas.NumpyL
import VProofs.Lemmas.PandasTS
