/-
  Every transformer but String → DateTime is a cell map (`mapCells`), so each case is a fact about one cell.
-/
import VProofs.Lemmas.PandasRel
namespace V.Pd
open V V.Gen

/-- `series.isna()` -/
def nullsOf (c : Column) : List Bool := c.cells.map (·.null)

theorem mapCells_nulls {α : Type} {d : DKind} {e : Cell → Outcome α} {g : α → Cell} {c c' : Column}
    (h : mapCells d e g c = .ok c') (hn : ∀ x ∈ c.cells, ∀ a, e x = .ok a → (g a).null = x.null) :
    nullsOf c' = nullsOf c :=
  ((mapCells_spec h).cells.imp_mem fun x hx _ ⟨a, ha, hy⟩ => hy ▸ hn x hx a ha).map_eq

theorem ofFloat_null (v : FloatV) : (Cell.ofFloat v).null = v.isNan := by
  unfold Cell.ofFloat; split <;> simp [*, Cell.missing, Cell.blank]

theorem ofComplex_null (re im : FloatV) : (Cell.ofComplex re im).null = (re.isNan || im.isNan) := rfl

/-- what `NullHyp` asks of one cell (the dtype `d` occurs in no field) -/
structure NullCell (d : DKind) (x : Cell) : Prop where
  /-- a missing complex value has a NaN real part (pandas stores `nan+0j`), a present one no NaN part -/
  complex : ∀ re im, x.pay = .complex re im → (x.null = re.isNan ∧ (x.null = false → im.isNan = false))
  /-- a `str` element is not missing, and `float()` / `complex()` of it is not NaN (false for F15 / F15b inputs) -/
  str : ∀ f, x.str = some f → x.null = false ∧ (∀ v, f.floatVal = .ok v → v.isNan = false) ∧
    (∀ re im, f.complexVal = .ok (re, im) → re.isNan = false ∧ im.isNan = false)

theorem nulls_complexToFloat (c c' : Column) (hc : ∀ x ∈ c.cells, NullCell c.dtype x)
    (hpay : ∀ x ∈ c.cells, x.null = false → ∃ re im, x.pay = .complex re im)
    (h : complexToFloat c = .ok c') : nullsOf c' = nullsOf c := by
  refine mapCells_nulls (complexToFloat_eq c ▸ h) fun x hx a ha => ?_
  cases ha
  unfold realPartCell
  cases hp : x.pay with
  | complex re im => simp only [ofFloat_null]; exact ((hc x hx).complex re im hp).1.symm
  | _ =>
    cases hn : x.null with
    | true => rfl
    | false => obtain ⟨re, im, h2⟩ := hpay x hx hn; rw [hp] at h2; cases h2

theorem nulls_floatToInteger (c c' : Column) (h : floatToInteger c = .ok c') : nullsOf c' = nullsOf c := by
  refine mapCells_nulls (floatToInteger_eq c ▸ h) fun x _ a ha => ?_
  cases ha
  unfold intCell
  cases hn : x.null with
  | true => rfl
  | false => cases hp : x.pay <;> simp [Cell.ofInt, Cell.blank, hn]

theorem nulls_datetimeToDate (c c' : Column) (h : datetimeToDate c = .ok c') : nullsOf c' = nullsOf c := by
  refine mapCells_nulls (datetimeToDate_ok h) fun x _ a ha => ?_
  cases ha
  unfold dateCell
  cases hn : x.null with
  | true => rfl
  | false => cases hp : x.pay <;> simp [Cell.ofDate, Cell.blank, hn]

theorem null_of_str_none {c : Column} {P : StrFacts → Prop}
    (hp : ∀ x ∈ c.cells, x.null = false → ∃ f, x.str = some f ∧ P f) {x : Cell} (hx : x ∈ c.cells)
    (hs : x.str = none) : x.null = true := by
  cases hn : x.null with
  | true => rfl
  | false => obtain ⟨f, hf, _⟩ := hp x hx hn; rw [hs] at hf; cases hf

theorem nulls_stringToFloat (c c' : Column) (hc : ∀ x ∈ c.cells, NullCell c.dtype x)
    (hacc : stringIsFloat c = .ok true) (h : stringToFloat c = .ok c') : nullsOf c' = nullsOf c := by
  refine mapCells_nulls (stringToFloat_eq c ▸ h) fun x hx v hv => ?_
  rw [ofFloat_null]
  cases hs : x.str with
  | some f =>
    have ⟨hn, hf, _⟩ := (hc x hx).str f hs
    simp only [cellFloat, hs] at hv
    rw [hf v hv, hn]
  | none =>
    have hn := null_of_str_none (pred_float hacc) hx hs
    simp only [cellFloat, hs, hn, if_true] at hv
    rw [hn]
    -- object dtype: `None` / NaN give NaN, `pd.NA` / `NaT` raise (excluded by `hv`); any other dtype: NaN
    split at hv
    case isTrue => split at hv <;> cases hv <;> rfl
    case isFalse => cases hv; rfl

theorem nulls_stringToComplex (c c' : Column) (hc : ∀ x ∈ c.cells, NullCell c.dtype x)
    (hacc : stringIsComplex c = .ok true) (h : stringToComplex c = .ok c') : nullsOf c' = nullsOf c := by
  refine mapCells_nulls (stringToComplex_eq c ▸ h) fun x hx p hp => ?_
  unfold complexCell
  cases hs : x.str with
  | some f =>
    have ⟨hn, _, hcx⟩ := (hc x hx).str f hs
    simp only [cellComplex, hs] at hp
    have ⟨h3, h4⟩ := hcx p.1 p.2 hp
    simp [h3, h4, ofComplex_null, hn]
  | none =>
    have hn := null_of_str_none (pred_complex hacc) hx hs
    simp only [cellComplex, hs, hn, if_true] at hp
    cases hp
    simp [ofComplex_null, FloatV.isNan, hn]

theorem nulls_strMapped {P : StrFacts → Cell → Prop} {c c' : Column}
    (hc : ∀ x ∈ c.cells, ∀ f, x.str = some f → x.null = false) (hp : ∀ f y, P f y → y.null = false)
    (hm : StrMapped P c c') : nullsOf c' = nullsOf c :=
  (hm.cells.imp_mem fun x hx y hxy => by
    rcases hxy with ⟨_, _, rfl⟩ | ⟨f, hf, hy⟩
    · rfl
    · rw [hp f y hy, hc x hx f hf]).map_eq

theorem nulls_objectToBoolean (c c' : Column) (h : objectToBoolean c = .ok c') : nullsOf c' = nullsOf c := by
  refine mapCells_nulls (objectToBoolean_ok h) fun x _ y hy => ?_
  unfold boolCell at hy
  cases hn : x.null with
  | true => simp only [hn, if_true] at hy; cases hy; rfl
  | false => simp only [hn, Bool.false_eq_true, if_false] at hy; split at hy <;> cases hy; rfl

theorem nulls_stringToBoolean (c c' : Column) (hacc : stringIsBoolean c = .ok true)
    (h : stringToBoolean c = .ok c') : nullsOf c' = nullsOf c := by
  rw [nulls_objectToBoolean _ c' (stringToBoolean_eq c ▸ h)]
  simp only [nullsOf, List.map_map]
  refine List.map_congr_left fun x hx => ?_
  simp only [Function.comp, strBoolCell]
  cases hn : x.null with
  | true => rfl
  | false =>
    obtain ⟨f, hf, hb⟩ := pred_boolean hacc x hx hn
    simp only [Bool.false_eq_true, if_false, hf]
    simp only [strPred] at hb
    cases hk : f.boolKey with
    | none => rw [hk] at hb; cases hb
    | some v => rfl

/-- `pd.to_datetime` leaves a `NaT` exactly where the input has a missing value -/
def DtNulls (o : ColOracle) (c : Column) : Prop :=
  ∀ r tz, o.toDatetime c.cells = .ok (r, tz) → r.map (·.null) = c.cells.map (·.null)

theorem nulls_stringToDatetime (o : ColOracle) (c c' : Column) (hdt : DtNulls o c)
    (h : stringToDatetime o c = .ok c') : nullsOf c' = nullsOf c := by
  obtain ⟨r, tz, hq, rfl⟩ := stringToDatetime_ok h
  exact hdt r tz hq

/-- the hypotheses of `nulls_pandas` on the input column: they exclude the inputs on which a missing value appears or
disappears for a reason outside the transformer: known findings F15 / F15b (`'nan'` strings parse to NaN, which *is* a
missing value), the one numeric corner where pandas itself loses a missing value (a complex number with a finite real
part and a NaN imaginary part cast to float), an oracle that moves `NaT` -/
structure NullHyp (o : ColOracle) (c : Column) : Prop where
  cells : ∀ x ∈ c.cells, NullCell c.dtype x
  complexPay : c.dtype.isComplex = true → ∀ x ∈ c.cells, x.null = false → ∃ re im, x.pay = .complex re im
  dt : DtNulls o c

/-- L5, the part of C06 that says "the positions of missing values are kept": every transformer of the relation table,
applied to a column of its source type that its test accepted, returns a column with missing values exactly where the
input has them -/
theorem nulls_pandas (o : ColOracle) (src dst : Ty) (g : Column → R Bool) (t : Column → R Column)
    (hg : guard o src dst = some g) (ht : xform o src dst = some t) (c c' : Column) (hyp : NullHyp o c)
    (hsrc : containsB src c = true) (hacc : g c = .ok true) (hx : t c = .ok c') : nullsOf c' = nullsOf c := by
  cases Row.of hg ht
  case objectBoolean => exact nulls_objectToBoolean c c' hx
  case stringBoolean => exact nulls_stringToBoolean c c' hacc hx
  case stringComplex => exact nulls_stringToComplex c c' hyp.cells hacc hx
  case stringDatetime => exact nulls_stringToDatetime o c c' hyp.dt hx
  case stringFloat => exact nulls_stringToFloat c c' hyp.cells hacc hx
  case complexFloat =>
    exact nulls_complexToFloat c c' hyp.cells (hyp.complexPay (dtypeOk_of_contains (t := .Complex) hsrc)) hx
  case floatInteger => exact nulls_floatToInteger c c' hx
  case datetimeDate => exact nulls_datetimeToDate c c' hx
  -- the parsed object is never a missing value
  case stringGeometry | stringIp | stringPath | stringUrl | stringUuid | stringEmail =>
    have hm := strObj_ok (o := o) (by constructor) (by decide) hx
    exact nulls_strMapped (fun x hx f hf => ((hyp.cells x hx).str f hf).1) (fun f y hp => by cases hp <;> rfl) hm

end V.Pd
