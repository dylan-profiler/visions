/-
  L2 (C02, first sentence) at `Generic`, `Object` and `String`.  At `Generic` the dtype tests of the eight children
  are pairwise exclusive on every dtype family (`dtype_partition`).  At `Object` the ten outgoing relations (nine identity children and
  Object→Boolean) each force a property of every non-missing cell, and those properties exclude one another (`HeadExcl`).
  At `String` the ten inference relations each force a parser result on every non-missing cell, which reduces sibling
  exclusivity to exclusivity of the *parsers* on one string (`StrExcl`), plus `FloatComplex` and `DtExcl`.
-/
import VProofs.Lemmas.PandasRel
import VProofs.Lemmas.Table
namespace V.Pd
open V V.Gen

/-- acceptance of the relation `Object → d` (identity: membership of `d`; inference: the guard) -/
def acceptsObj (d : Ty) (c : Column) : Prop :=
  match d with
  | .Boolean => objectIsBoolean c = .ok true
  | d => containsB d c = true

/-- cells of a string-dtype column are strings (what the dtype guarantees; validated by α) -/
def DtypeCells (c : Column) : Prop :=
  c.dtype.isStringNonObject = true → ∀ x ∈ c.cells, x.null = false → x.isStr = true

theorem acceptsObj_iff {d : Ty} (hd : d ≠ .Boolean) (c : Column) : acceptsObj d c ↔ containsB d c = true := by
  unfold acceptsObj; split
  · exact absurd rfl hd
  · exact Iff.rfl

/-- for the eight object-valued children membership asks of a cell what `objPred` names, and possibly more -/
theorem objPred_of_cellOk {a : Ty} (ha : a ∈ objValued) {dt : DKind} {x : Cell} (h : cellOk a dt x = true) :
    objPred a x = true := by
  cases a
  -- a test of the class, then one of its attributes
  case Date | Time | URL | UUID | EmailAddress | Path => exact (Bool.and_eq_true_iff.mp h).1
  case Geometry | IPAddress => exact h
  -- no other type is in `objValued`
  all_goals exact absurd ha (by decide)

theorem acceptsObj_pred {d : Ty} {c : Column} (hd : d ∈ objChildren) (hdc : DtypeCells c)
    (h : acceptsObj d c) : ∀ x ∈ c.cells, x.null = false → objPred d x = true := by
  intro x hx hn
  by_cases hb : d = .Boolean
  · subst hb; simp only [objPred, accepts_objectIsBoolean h x hx hn]; rfl
  have ⟨_, hdt, hc⟩ := containsB_iff.mp ((acceptsObj_iff hb c).mp h)
  have hc := hc x hx hn
  by_cases hs : d = .String
  · -- an object column of strings, or a string dtype
    subst hs
    simp only [dtypeOk, cellOk, Bool.and_eq_true, Bool.or_eq_true, Bool.not_eq_true'] at hdt hc
    rcases hc with ho | hc
    · rcases hdt.2 with ho' | hs
      · rw [ho] at ho'; cases ho'
      · exact hdc hs x hx hn
    · exact hc.1
  · exact objPred_of_cellOk ((by decide : ∀ d ∈ objChildren, d ≠ .Boolean → d ≠ .String → d ∈ objValued) d hd hb hs) hc

/-- no Python value satisfies two of the cell properties at once (facts about CPython's classes: a value is not at once
a `str`, a `date`, a `ParseResult`, …; validated by α on every generated cell) -/
def HeadExcl (x : Cell) : Prop :=
  ∀ a ∈ objChildren, ∀ b ∈ objChildren, a ≠ b → ¬ (objPred a x = true ∧ objPred b x = true)

theorem headExclB_sound {x : Cell} (h : headExclB x = true) : HeadExcl x := by
  intro a ha b hb hne hab
  have := List.all_eq_true.mp (List.all_eq_true.mp h a ha) b hb
  simp only [Bool.or_eq_true, beq_iff_eq, Bool.not_eq_true', Bool.and_eq_false_iff] at this
  rcases this with h1 | h1 | h1
  · exact hne h1
  · rw [hab.1] at h1; cases h1
  · rw [hab.2] at h1; cases h1

theorem mutex_object (c : Column) (hv : HasValue c) (hdc : DtypeCells c)
    (hex : ∀ x ∈ c.cells, x.null = false → HeadExcl x)
    (d₁ d₂ : Ty) (h₁ : d₁ ∈ objChildren) (h₂ : d₂ ∈ objChildren) (hne : d₁ ≠ d₂) :
    ¬ (acceptsObj d₁ c ∧ acceptsObj d₂ c) := by
  rintro ⟨a, b⟩
  obtain ⟨x, hx, hn⟩ := hv
  exact hex x hx hn d₁ h₁ d₂ h₂ hne ⟨acceptsObj_pred h₁ hdc a x hx hn, acceptsObj_pred h₂ hdc b x hx hn⟩

example : HeadExcl (Cell.ofDate 737425) := headExclB_sound (by decide)

def acceptsStr (o : ColOracle) (d : Ty) (c : Column) : Prop := ∃ g, guard o .String d = some g ∧ g c = .ok true

/-- the element parsers accept disjoint sets of strings (H_parsers_disjoint) — for one string.  This is an explicit
hypothesis: it is what the library's design assumes, it is validated by the harness on every generated string, and it
is *false* for the strings of known findings F10–F12 (`'1'*32`, `'http://u@h'`, `'/a@b'`).  `Complex` is left out of the
pairs with `Float` (every float literal is a complex literal): that pair is handled by `FloatComplex`. -/
def StrExcl (f : StrFacts) : Prop :=
  ∀ a ∈ strParsers, ∀ b ∈ strParsers, a ≠ b → ¬ (a = .Complex ∧ b = .Float) → ¬ (a = .Float ∧ b = .Complex) →
    ¬ (strPred a f = true ∧ strPred b f = true)

/-- `float(s)` succeeding means `complex(s)` succeeds with a zero imaginary part -/
def FloatComplex (f : StrFacts) : Prop :=
  ∀ v, f.floatVal = .ok v → ∃ re im, f.complexVal = .ok (re, im) ∧ im.isZero = true

/-- `pd.to_datetime` does not accept what another parser accepts (false for digit strings: finding F09).  Stated of the
column: `toDatetime` is an oracle on the whole list of cells, not a parser result in `StrFacts`, so `StrExcl` cannot
speak of it. -/
def DtExcl (o : ColOracle) (c : Column) : Prop :=
  stringIsDatetime o c = .ok true → ∀ d ∈ strParsers, ¬ acceptsStr o d c

theorem acceptsStr_iff {o : ColOracle} {d : Ty} {g : Column → R Bool} {c : Column} (hg : guard o .String d = some g) :
    acceptsStr o d c ↔ g c = .ok true :=
  ⟨fun ⟨_, hg', h⟩ => by cases hg.symm.trans hg'; exact h, fun h => ⟨g, hg, h⟩⟩

theorem acceptsStr_pred {o : ColOracle} {d : Ty} {c : Column} (hd : d ∈ strParsers) (h : acceptsStr o d c) :
    ∀ x ∈ c.cells, x.null = false → ∃ f, x.str = some f ∧ strPred d f = true := by
  obtain ⟨g, hg, hacc⟩ := h
  obtain ⟨t, r⟩ := Row.of_guard hg
  cases r
  case stringDatetime => exact absurd hd (by decide)
  case stringBoolean => exact pred_boolean hacc
  case stringComplex => exact pred_complex hacc
  case stringFloat => exact pred_float hacc
  case stringGeometry => exact pred_geometry hacc
  case stringPath => exact pred_path hacc
  case stringUrl => exact pred_url hacc
  case stringIp | stringUuid | stringEmail =>
    exact handleNulls_all hacc fun d hd => ((coercion_iff (fun _ => ite_ne_ok_true _ _) d).mp hd).1

/-- Float and Complex never both accept: if every value is a float literal, every imaginary part is zero -/
theorem float_complex_excl {c : Column} (hsn : StrNotNull c)
    (hfc : ∀ x ∈ c.cells, ∀ f, x.str = some f → FloatComplex f)
    (hf : stringIsFloat c = .ok true) (hc : stringIsComplex c = .ok true) : False := by
  obtain ⟨_, p, hp, hnn, hz⟩ := stringIsComplex_spec hc
  obtain ⟨x, hx, hgx⟩ := mem_oks_map.mp hp
  cases hs : x.str with
  | none =>
    -- no string: a missing cell, which contributes (nan, 0), or a raise
    simp only [cellComplex, hs] at hgx
    split at hgx <;> cases hgx
    cases hnn
  | some f =>
    simp only [cellComplex, hs] at hgx
    obtain ⟨f', hs', hpf⟩ := pred_float hf x hx (hsn x hx (by simp [hs]))
    cases hs.symm.trans hs'
    simp only [strPred] at hpf
    cases hfv : f.floatVal with
    | raises cls => rw [hfv] at hpf; cases hpf
    | ok v =>
      obtain ⟨re, im, hcv, him⟩ := hfc x hx f hs v hfv
      cases hcv.symm.trans hgx
      rw [him] at hz; cases hz

theorem mutex_string (o : ColOracle) (c : Column) (hv : HasValue c) (hsn : StrNotNull c)
    (hex : ∀ x ∈ c.cells, ∀ f, x.str = some f → StrExcl f ∧ FloatComplex f)
    (hdt : DtExcl o c)
    (d₁ d₂ : Ty) (h₁ : d₁ ∈ .DateTime :: strParsers) (h₂ : d₂ ∈ .DateTime :: strParsers) (hne : d₁ ≠ d₂) :
    ¬ (acceptsStr o d₁ c ∧ acceptsStr o d₂ c) := by
  rintro ⟨a, b⟩
  have dtcase : ∀ d ∈ strParsers, acceptsStr o .DateTime c → acceptsStr o d c → False :=
    fun d hd hdta hda => hdt ((acceptsStr_iff rfl).mp hdta) d hd hda
  have fccase : acceptsStr o .Float c → acceptsStr o .Complex c → False := fun hf hc =>
    float_complex_excl hsn (fun x hx f hf => (hex x hx f hf).2) ((acceptsStr_iff rfl).mp hf) ((acceptsStr_iff rfl).mp hc)
  rcases List.mem_cons.mp h₁ with rfl | h₁'
  · rcases List.mem_cons.mp h₂ with rfl | h₂'
    · exact hne rfl
    · exact dtcase d₂ h₂' a b
  · rcases List.mem_cons.mp h₂ with rfl | h₂'
    · exact dtcase d₁ h₁' b a
    · -- two parsers: both force their result on the first value; `StrExcl` leaves the pair Float / Complex
      obtain ⟨x, hx, hn⟩ := hv
      obtain ⟨f, hs, hp1⟩ := acceptsStr_pred h₁' a x hx hn
      obtain ⟨f', hs', hp2⟩ := acceptsStr_pred h₂' b x hx hn
      cases hs.symm.trans hs'
      by_cases hfc1 : d₁ = .Complex ∧ d₂ = .Float
      · obtain ⟨rfl, rfl⟩ := hfc1; exact fccase b a
      by_cases hfc2 : d₁ = .Float ∧ d₂ = .Complex
      · obtain ⟨rfl, rfl⟩ := hfc2; exact fccase a b
      exact (hex x hx f hs).1 d₁ h₁' d₂ h₂' hne hfc1 hfc2 ⟨hp1, hp2⟩

/-- by evaluation over the dtype table regenerated from the installed pandas -/
theorem dtype_partition (d : DKind) (t₁ t₂ : Ty) (h₁ : t₁ ∈ genericChildren) (h₂ : t₂ ∈ genericChildren)
    (hne : t₁ ≠ t₂) : ¬ (dtypeOk t₁ d = true ∧ dtypeOk t₂ d = true) := by
  have key : (genericChildren.filter (dtypeOk · d)).length ≤ 1 := by
    cases d with
    | object => decide
    | fam f => cases f <;> decide
  rintro ⟨a, b⟩
  exact hne (eq_of_mem_of_length_le_one key (List.mem_filter.mpr ⟨h₁, a⟩) (List.mem_filter.mpr ⟨h₂, b⟩))

theorem mutex_generic (c : Column) (t₁ t₂ : Ty) (h₁ : t₁ ∈ genericChildren) (h₂ : t₂ ∈ genericChildren)
    (hne : t₁ ≠ t₂) : ¬ (containsB t₁ c = true ∧ containsB t₂ c = true) := fun ⟨a, b⟩ =>
  dtype_partition c.dtype t₁ t₂ h₁ h₂ hne ⟨dtypeOk_of_contains a, dtypeOk_of_contains b⟩

end V.Pd
