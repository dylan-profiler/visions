import VProofs.Lemmas.PandasRel
namespace V.Pd
open V V.Gen V.C06

/-- a complex cell is missing exactly when its payload is NaN (what `Series.isna` does) -/
structure PayWF (x : Cell) : Prop where
  complex_null : ∀ re im, x.pay = .complex re im → (x.null = true ↔ (re.isNan = true ∨ im.isNan = true))

/-- the result of `pd.to_datetime` on the whole column holds a timestamp (validated by the harness on every String
column).  A hypothesis because the test asks the oracle about the non-missing cells (`handleNulls`) and the transformer
asks it about the whole column: two oracle calls the model cannot relate. -/
def DtLands (o : ColOracle) (c : Column) : Prop :=
  ∀ r tz, o.toDatetime c.cells = .ok (r, tz) → (∃ y ∈ r, y.null = false)

/-- the hypotheses of `lands_pandas` (each validated by α on every generated column; `strNotNull` is needed for
String→Path only) -/
structure LandsHyp (o : ColOracle) (c : Column) : Prop where
  pay : ∀ x ∈ c.cells, PayWF x
  strNotNull : StrNotNull c
  dt : containsB .String c = true → DtLands o c

/-- how a column built cell by cell (`R` relates each cell to its image) lands in a type that asks for a value -/
theorem CellMapped.contains {t : Ty} {R : Cell → Cell → Prop} {d : DKind} {c c' : Column} (m : CellMapped R d c c')
    (hsh : shapeOf t = .hasValue) (hd : dtypeOk t d = true)
    (hv : ∃ x ∈ c.cells, ∀ y, R x y → y.null = false)
    (hc : ∀ x ∈ c.cells, ∀ y, R x y → y.null = false → cellOk t d y = true) : containsB t c' = true := by
  refine containsB_iff.mpr ⟨?_, m.dtype ▸ hd, fun y hy hn => ?_⟩
  · obtain ⟨x, hx, h⟩ := hv
    obtain ⟨y, hy, hxy⟩ := m.cells.exists_of_mem_left hx
    exact (shapeB_hasValue hsh).mpr ⟨y, hy, h y hxy⟩
  · obtain ⟨x, hx, hxy⟩ := m.cells.exists_of_mem_right hy
    exact m.dtype ▸ hc x hx y hxy hn

/-- … and in one that asks for a non-empty column and nothing of its cells -/
theorem CellMapped.contains_nonEmpty {t : Ty} {R : Cell → Cell → Prop} {d : DKind} {c c' : Column}
    (m : CellMapped R d c c') (hsh : shapeOf t = .nonEmpty) (hd : dtypeOk t d = true)
    (hne : c.cells ≠ []) (hc : ∀ dt y, cellOk t dt y = true) : containsB t c' = true := by
  obtain ⟨x, hx⟩ := List.exists_mem_of_ne_nil _ hne
  obtain ⟨y, hy, _⟩ := m.cells.exists_of_mem_left hx
  exact containsB_iff.mpr ⟨(shapeB_nonEmpty hsh).mpr (List.ne_nil_of_mem hy), m.dtype ▸ hd, fun _ _ _ => hc _ _⟩

theorem lands_float_integer {c c' : Column} (hsrc : floatContains c = true)
    (hx : floatToInteger c = .ok c') : integerContains c' = true := by
  exact (mapCells_spec (floatToInteger_eq c ▸ hx)).contains_nonEmpty (t := .Integer) rfl (by cases c.hasnans <;> rfl)
    (hasValue_of_contains (t := .Float) rfl hsrc).ne_nil fun _ _ => rfl

theorem lands_complex_float {c c' : Column} (wf : ∀ x ∈ c.cells, PayWF x) (hsrc : complexContains c = true)
    (hg : complexIsFloat c = .ok true) (hx : complexToFloat c = .ok c') : floatContains c' = true := by
  obtain ⟨x, hxm, hn⟩ := hasValue_of_handleNulls hg ((shapeB_nonEmpty rfl).mp (containsB_iff (t := .Complex).mp hsrc).1)
  obtain ⟨re, im, hpay, _⟩ := accepts_complexIsFloat hg x hxm hn
  refine (mapCells_spec (complexToFloat_eq c ▸ hx)).contains (t := .Float) rfl rfl ⟨x, hxm, fun y ⟨a, ha, hy⟩ => ?_⟩
    fun _ _ _ _ _ => rfl
  -- a non-missing complex cell has a non-NaN real part, so its image is a non-missing float
  have hre : re.isNan = false := by
    cases hr : re.isNan with
    | false => rfl
    | true => rw [((wf x hxm).complex_null re im hpay).mpr (Or.inl hr)] at hn; cases hn
  cases ha
  subst hy
  simp [realPartCell, hpay, Cell.ofFloat, hre, Cell.blank]

theorem lands_datetime_date {c c' : Column} (hsrc : datetimeContains c = true)
    (hg : datetimeIsDate c = .ok true) (hx : datetimeToDate c = .ok c') : dateContains c' = true := by
  obtain ⟨x, hxm, hn⟩ := hasValue_of_contains (t := .DateTime) rfl hsrc
  -- a non-missing cell is a midnight timestamp and becomes a `date`
  have hcell : ∀ x ∈ c.cells, x.null = false → ∃ day, dateCell x = Cell.ofDate day := by
    intro x hx hn
    obtain ⟨day, tz, hpay⟩ := accepts_datetimeIsDate hg x hx hn
    exact ⟨day, by rw [dateCell, hn, hpay]; rfl⟩
  refine (mapCells_spec (datetimeToDate_ok hx)).contains (t := .Date) rfl rfl ⟨x, hxm, fun y ⟨a, ha, hy⟩ => ?_⟩
    fun x hx y ⟨a, ha, hy⟩ hyn => ?_
  · cases ha
    obtain ⟨day, hday⟩ := hcell x hxm hn
    rw [hy, hday]; rfl
  · cases ha
    cases hxn : x.null with
    | true => rw [hy, dateCell, hxn] at hyn; cases hyn
    | false =>
      obtain ⟨day, hday⟩ := hcell x hx hxn
      rw [hy, hday]; rfl

theorem boolean_of_objectToBoolean {c c' : Column} (hv : HasValue c) (hx : objectToBoolean c = .ok c') :
    booleanContains c' = true := by
  obtain ⟨x, hxm, hn⟩ := hv
  refine (mapCells_spec (objectToBoolean_ok hx)).contains (t := .Boolean) rfl (by cases c.hasnans <;> rfl)
    ⟨x, hxm, fun y ⟨a, ha, hy⟩ => ?_⟩ fun _ _ _ _ _ => rfl
  simp only [boolCell, hn, Bool.false_eq_true, if_false] at ha
  subst hy
  split at ha <;> cases ha
  rfl

theorem lands_string_boolean {c c' : Column} (hsrc : stringContains c = true)
    (hg : stringIsBoolean c = .ok true) (hx : stringToBoolean c = .ok c') : booleanContains c' = true := by
  -- a non-missing cell is a string whose lower-case form is a key of a boolean map: `map(mapping)` makes it a boolean
  obtain ⟨x, hxm, hn⟩ := hasValue_of_contains (t := .String) rfl hsrc
  obtain ⟨f, hs, hk⟩ := pred_boolean hg x hxm hn
  refine boolean_of_objectToBoolean ⟨strBoolCell x, List.mem_map_of_mem hxm, ?_⟩ (stringToBoolean_eq c ▸ hx)
  cases hb : f.boolKey with
  | none => simp [strPred, hb] at hk
  | some jb => simp only [strBoolCell, hn, hs, hb]; rfl

theorem lands_string_complex {c c' : Column} (hsrc : stringContains c = true)
    (hx : stringToComplex c = .ok c') : complexContains c' = true := by
  exact (mapCells_spec (stringToComplex_eq c ▸ hx)).contains_nonEmpty (t := .Complex) rfl rfl
    (hasValue_of_contains (t := .String) rfl hsrc).ne_nil fun _ _ => rfl

theorem lands_string_float {c c' : Column} (hg : stringIsFloat c = .ok true)
    (hx : stringToFloat c = .ok c') : floatContains c' = true := by
  obtain ⟨_, v, hvm, hvn⟩ := stringIsFloat_spec hg
  obtain ⟨x, hxd, hv⟩ := mem_oks_map.mp hvm
  have hxm := (mem_nonNull.mp hxd).1
  refine (mapCells_spec (stringToFloat_eq c ▸ hx)).contains (t := .Float) rfl rfl ⟨x, hxm, fun y ⟨a, ha, hy⟩ => ?_⟩
    fun _ _ _ _ _ => rfl
  cases hv.symm.trans ha
  subst hy
  simp [Cell.ofFloat, hvn, Cell.blank]

theorem lands_string_datetime {o : ColOracle} {c c' : Column} (hdt : DtLands o c)
    (hx : stringToDatetime o c = .ok c') : datetimeContains c' = true := by
  obtain ⟨r, tz, hq, rfl⟩ := stringToDatetime_ok hx
  exact containsB_iff (t := .DateTime).mpr
    ⟨(shapeB_hasValue rfl).mpr (hdt r tz hq), by cases tz <;> rfl, fun _ _ _ => rfl⟩

theorem lands_strMapped {d : Ty} {P : StrFacts → Cell → Prop} {c c' : Column} (hsh : shapeOf d = .hasValue)
    (hdt : dtypeOk d .object = true) (hv : HasValue c) (hm : StrMapped P c c')
    (hP : ∀ x ∈ c.cells, ∀ f y, x.str = some f → P f y → y.null = false ∧ cellOk d .object y = true) :
    containsB d c' = true := by
  obtain ⟨x, hx, hn⟩ := hv
  refine hm.contains hsh hdt ⟨x, hx, fun y hxy => ?_⟩ fun x hx y hxy hyn => ?_
  · rcases hxy with ⟨_, hxn, _⟩ | ⟨f, hf, hp⟩
    · rw [hn] at hxn; cases hxn
    · exact (hP x hx f y hf hp).1
  · rcases hxy with ⟨_, hxn, rfl⟩ | ⟨f, hf, hp⟩
    · rw [hyn] at hxn; cases hxn
    · exact (hP x hx f y hf hp).2

/-- one flavour of `string_to_path`: if every value is absolute in it, the parsed column is in `Path` -/
theorem lands_path_flavour (sel : StrFacts → Outcome (Bool × String)) (name : String) {c c' : Column} (hv : HasValue c)
    (hs : StrNotNull c)
    (hall : (c.dropna.cells.map (strOut sel "TypeError")).all isAbsO = true)
    (h : applyStr c (fun f => match sel f with | .ok (b, r) => .ok (purePathCell name b r) | .raises cls => .raises cls)
      (fun x => if x.null then .ok x else .raises "TypeError") = .ok c') : pathContains c' = true := by
  refine lands_strMapped (d := .Path) (P := fun f y => ∃ b r, sel f = .ok (b, r) ∧ y = purePathCell name b r) rfl rfl hv
    (strMapped_of_applyStr (fun f y hy => ?_) h) fun x hxm f y hf ⟨b, r, hw, hy⟩ => ?_
  · split at hy <;> cases hy
    exact ⟨_, _, ‹_›, rfl⟩
  · -- the cell is among those the flavour was decided on
    have := List.all_eq_true.mp hall _ (List.mem_map_of_mem (mem_dropna.mpr ⟨hxm, hs x hxm (by simp [hf])⟩))
    simp only [strOut_some hf, hw, isAbsO] at this
    subst hy this
    exact ⟨rfl, rfl⟩

theorem lands_string_path {c c' : Column} (hsrc : stringContains c = true) (hs : StrNotNull c)
    (hg : stringIsPath c = .ok true) (hx : stringToPath c = .ok c') : pathContains c' = true := by
  have hv := hasValue_of_contains (t := .String) rfl hsrc
  rcases stringToPath_ok hx with ⟨hall, h⟩ | ⟨hall, h⟩
  · exact lands_path_flavour (·.winAbs) _ hv hs hall h
  · exact lands_path_flavour (·.posixAbs) _ hv hs ((stringIsPath_spec hg).2 hall) h

/-- L3 (C03, last sentence) for the 14 inference relations of the generated table: when a relation's test accepts a
column of its source type and its transformer returns, the result belongs to the target type -/
theorem lands_pandas (o : ColOracle) (src dst : Ty) (g : Column → R Bool) (t : Column → R Column)
    (hg : guard o src dst = some g) (ht : xform o src dst = some t)
    (c c' : Column) (hyp : LandsHyp o c) (hsrc : containsB src c = true)
    (hacc : g c = .ok true) (hx : t c = .ok c') : containsB dst c' = true := by
  cases Row.of hg ht
  case objectBoolean => exact boolean_of_objectToBoolean (hasValue_of_contains (t := .Object) rfl hsrc) hx
  case stringBoolean => exact lands_string_boolean hsrc hacc hx
  case stringComplex => exact lands_string_complex hsrc hx
  case stringDatetime => exact lands_string_datetime (hyp.dt hsrc) hx
  case stringFloat => exact lands_string_float hacc hx
  case complexFloat => exact lands_complex_float hyp.pay hsrc hacc hx
  case floatInteger => exact lands_float_integer hsrc hx
  case datetimeDate => exact lands_datetime_date hsrc hacc hx
  case stringPath => exact lands_string_path hsrc hyp.strNotNull hacc hx
  -- each parsed cell is a non-missing cell of the target's kind
  case stringGeometry | stringIp | stringUrl | stringUuid | stringEmail =>
    exact lands_strMapped rfl rfl (hasValue_of_contains (t := .String) rfl hsrc) (strObj_ok (o := o) (by constructor) (by decide) hx)
      fun _ _ _ _ _ hp => by cases hp <;> exact ⟨rfl, rfl⟩

end V.Pd
