/-
  L6 for `infer` on the pandas model.  `GuardsOk` is asked of the *input* only: intermediate columns are produced columns
  (`OutCol`), on which only total tests run (`guardsOk_of_outCol`).
-/
import VProofs.Obligations.PandasClosed
namespace V.Pd
open V V.Gen

/-- by one evaluation over the generated table -/
theorem table_guard_defined (o : ColOracle) (dst : Ty) (r : RelDecl Ty) (hr : r ∈ declared dst) (hi : r.inferential = true) :
    ∃ g t, guard o r.src dst = some g ∧ xform o r.src dst = some t := by
  have all : (Ty.all.all fun dst => (declared dst).all fun r => !r.inferential || (guard o r.src dst).isSome) = true := rfl
  have := List.all_eq_true.mp (List.all_eq_true.mp all dst (Ty.mem_all dst)) r hr
  simp only [or_eq_true_imp, Bool.not_eq_false', Option.isSome_iff_exists] at this
  obtain ⟨g, hg⟩ := this hi
  obtain ⟨t, row⟩ := Row.of_guard hg
  exact ⟨g, t, hg, row.xform_eq⟩

/-- no relation test whose source type contains the column raises on it (executable: `guardsOkB`) -/
def GuardsOk (o : ColOracle) (c : Column) : Prop :=
  ∀ src dst g, guard o src dst = some g → containsB src c = true → ∃ b, g c = .ok b

theorem guardsOkB_sound (o : ColOracle) (c : Column) (h : guardsOkB o c = true) : GuardsOk o c := by
  intro src dst g hg hsrc
  have := List.all_eq_true.mp (List.all_eq_true.mp h src (Ty.mem_all src)) dst (Ty.mem_all dst)
  simp only [hg, or_eq_true_imp, Bool.not_eq_false', isOkR_iff] at this
  exact this hsrc

theorem guardsOk_of_outCol (o : ColOracle) (c : Column) (h : OutCol c) : GuardsOk o c := by
  intro src dst g hg hsrc
  obtain ⟨t, r⟩ := Row.of_guard hg
  cases r
  case objectBoolean | complexFloat | floatInteger | datetimeDate => exact handleNulls_okB _ c
  case stringBoolean | stringComplex | stringDatetime | stringFloat | stringGeometry | stringIp | stringPath | stringUrl |
      stringUuid | stringEmail =>
    exact absurd hsrc (outCol_not_string h)

/-- C09, `infer` never raises: for every typeset built from the relation table and every column satisfying `Good` and
`GuardsOk`, the full-engine traversal the driver evaluates returns normally, so no guard and no transformer raises
anywhere along the walk -/
theorem infer_total (o : ColOracle) (b : Built Ty) (ft : FromTable b) (c : Column)
    (hG : Good o c) (hK : GuardsOk o c) (hroot : containsB b.root c = true) :
    ∃ v, traverse (graphOf o b) 64 b.root c () [] = .ok v := by
  obtain ⟨d, p, _, hv, _⟩ := (backend o).total (fun t => 32 - rank t) b (height_of_rank ft.rank)
    (fun x => Good o x ∧ GuardsOk o x)
    (hdef := fun e he hi => table_guard_defined o e.dst ⟨e.src, e.inferential⟩ (ft.decl e he) hi)
    (hg := fun s t g hg x hi hc => hi.2 s t g hg hc)
    (hx := fun s t g u hg hu x ⟨hG, _⟩ hc hgx => by
      obtain ⟨c', hc'⟩ := hG.noRaise s t g u hg hu hc hgx
      have out := outputs_outCol hg hu hG hc hc'
      exact ⟨c', hc', ⟨good_of_outCol o c' out, guardsOk_of_outCol o c' out⟩,
        lands_pandas o s t g u hg hu x c' hG.landsHyp hc hgx hc'⟩)
    64 b.root c (fuel_ok _) ⟨hG, hK⟩ hroot
  exact ⟨_, hv⟩

end V.Pd
