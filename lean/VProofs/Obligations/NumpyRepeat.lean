/-
  L4 (repetition) for the numpy model: repeating an array k + 1 times changes neither the membership of any type nor the
  verdict of any relation test, and every transformer commutes with repetition.
-/
import VProofs.Obligations.NumpyBag
namespace V.Np
open V V.Gen

def rep {α : Type} (k : Nat) (l : List α) : List α := (List.replicate (k + 1) l).flatten
def repeatArr (a : NArr) (k : Nat) : NArr := { a with elems := rep k a.elems }

theorem rep_succ {α : Type} (k : Nat) (l : List α) : rep (k + 1) l = l ++ rep k l := by
  simp [rep, List.replicate_succ]
theorem rep_zero {α : Type} (l : List α) : rep 0 l = l := by simp [rep]

theorem rep_map {α β : Type} (f : α → β) (k : Nat) (l : List α) : (rep k l).map f = rep k (l.map f) := by
  simp only [rep, List.map_flatten, List.map_replicate]
theorem rep_filter {α : Type} (p : α → Bool) (k : Nat) (l : List α) : (rep k l).filter p = rep k (l.filter p) := by
  simp only [rep, List.filter_flatten, List.map_replicate]
theorem mem_rep {α : Type} {k : Nat} {l : List α} (x : α) : x ∈ rep k l ↔ x ∈ l := mem_flatten_replicate x
theorem rep_all {α : Type} (p : α → Bool) (k : Nat) (l : List α) : (rep k l).all p = l.all p := all_congr_mem mem_rep p
theorem rep_any {α : Type} (p : α → Bool) (k : Nat) (l : List α) : (rep k l).any p = l.any p := any_congr_mem mem_rep p
theorem rep_isEmpty {α : Type} (k : Nat) (l : List α) : (rep k l).isEmpty = l.isEmpty := isEmpty_congr_mem mem_rep

theorem oks_rep {α : Type} (k : Nat) (l : List (Outcome α)) : oks (rep k l) = rep k (oks l) := by
  have e : ∀ m : List (Outcome α), oks m = m.filterMap (fun | .ok a => some a | .raises _ => none) := by
    intro m
    induction m with
    | nil => rfl
    | cons z zs ih => cases z <;> simp [oks, ih]
  simp only [e, rep, List.filterMap_flatten, List.map_replicate]

theorem firstRaise_append {α : Type} (l l' : List (Outcome α)) :
    firstRaise (l ++ l') = (match firstRaise l with | some c => some c | none => firstRaise l') := by
  induction l with
  | nil => simp [firstRaise]
  | cons z zs ih => cases z <;> simp [firstRaise, ih]

-- the first conversion that raises is in the first copy
theorem firstRaise_rep {α : Type} (k : Nat) (l : List (Outcome α)) : firstRaise (rep k l) = firstRaise l := by
  induction k with
  | zero => rw [rep_zero]
  | succ k ih =>
    rw [rep_succ, firstRaise_append, ih]
    cases firstRaise l <;> rfl

theorem mask_repeat (a : NArr) (k : Nat) : (repeatArr a k).mask = repeatArr a.mask k := by
  simp only [NArr.mask, repeatArr, rep_filter]
theorem isEmpty_repeat (a : NArr) (k : Nat) : (repeatArr a k).isEmpty = a.isEmpty := rep_isEmpty k a.elems
theorem kind_repeat (a : NArr) (k : Nat) : (repeatArr a k).kind = a.kind := rfl

theorem containsB_repeat_np (t : Ty) (a : NArr) (k : Nat) (hw : ∀ x ∈ a.elems, ElemWF a.kind x) :
    containsB t (repeatArr a k) = containsB t a :=
  containsB_congr t rfl mem_rep (fun x hx => hw x ((mem_rep x).mp hx))

theorem mem_mask_repeat (a : NArr) (k : Nat) (x : NElem) : x ∈ (repeatArr a k).mask.elems ↔ x ∈ a.mask.elems :=
  filter_congr_mem mem_rep _ x

theorem firstRaise_mask_repeat {α : Type} (f : NElem → Outcome α) (a : NArr) (k : Nat) :
    firstRaise ((repeatArr a k).mask.elems.map f) = firstRaise (a.mask.elems.map f) := by
  rw [mask_repeat]
  exact (congrArg firstRaise (rep_map f k _)).trans (firstRaise_rep k _)

/-- `pd.to_datetime` parses element by element: on a repetition it returns the repetition of what it returns on the array -/
structure DtRepN (o : NpOracle) : Prop where
  masked : ∀ a k, o.dtMasked (repeatArr a k) = (match o.dtMasked a with | .ok r => .ok (repeatArr r k) | .raises c => .raises c)
  whole : ∀ a k, o.dtWhole (repeatArr a k) = (match o.dtWhole a with | .ok r => .ok (repeatArr r k) | .raises c => .raises c)

theorem guard_repeat (o : NpOracle) (hd : DtRepN o) (src dst : Ty) (g : NArr → R Bool) (hg : guard o src dst = some g)
    (a : NArr) (k : Nat) : g (repeatArr a k) = g a := by
  obtain ⟨_, r⟩ := Row.of_guard hg
  have hm := mem_mask_repeat a k
  cases r with
  | objectBoolean | complexFloat | floatInteger => exact handleNulls_all_congr hm _
  | stringBoolean => exact stringIsBoolean_congr hm (firstRaise_mask_repeat _ a k)
  | stringComplex =>
    exact stringIsComplex_congr hm (firstRaise_mask_repeat _ a k) (stringIsFloat_congr hm (firstRaise_mask_repeat _ a k))
  | stringDatetime =>
    refine handleNulls_congr hm ?_
    simp only [mask_repeat, hd.masked]
    cases o.dtMasked a.mask with
    | raises c => rfl
    | ok r => exact congrArg (fun v => Except.ok !v) (rep_any _ k _)
  | stringFloat => exact stringIsFloat_congr hm (firstRaise_mask_repeat _ a k)

-- where a transformer builds an array itself it is by one `List.map` (the `_eq` equations of `NumpyLands`)
theorem map_elems_repeat (kd : NpKind) (f : NElem → NElem) (l : List NElem) (k : Nat) :
    (.ok ⟨kd, (rep k l).map f⟩ : R NArr) = (Except.ok ⟨kd, l.map f⟩ : R NArr).map (fun d => repeatArr d k) :=
  congrArg (fun l => (.ok ⟨kd, l⟩ : R NArr)) (rep_map f k l)

theorem xform_repeat (o : NpOracle) (hd : DtRepN o) (src dst : Ty) (t : NArr → R NArr) (ht : xform o src dst = some t)
    (a : NArr) (k : Nat) : t (repeatArr a k) = (t a).map (fun d => repeatArr d k) := by
  obtain ⟨_, r⟩ := Row.of_xform ht
  cases r with
  | objectBoolean => rfl
  | stringBoolean =>
    rw [stringToBoolean_eq, stringToBoolean_eq, firstRaise_mask_repeat, mask_repeat, isEmpty_repeat]
    cases firstRaise (a.mask.elems.map (·.lower)) with
    | some c => rfl
    | none =>
      cases a.mask.isEmpty with
      | true => rfl
      | false => exact map_elems_repeat .O s2b a.elems k
  | stringComplex =>
    rw [stringToComplex_eq, stringToComplex_eq, firstRaise_mask_repeat]
    cases firstRaise (a.mask.elems.map (·.cx)) with
    | some c => rfl
    | none => exact map_elems_repeat .c s2c a.elems k
  | stringDatetime =>
    simp only [stringToDatetime, hd.whole]
    cases o.dtWhole a <;> rfl
  | stringFloat =>
    rw [stringToFloat_eq, stringToFloat_eq, firstRaise_mask_repeat]
    cases firstRaise (a.mask.elems.map (·.fl)) with
    | some c => rfl
    | none => exact map_elems_repeat .f s2f a.elems k
  | complexFloat => exact map_elems_repeat .f c2f a.elems k
  | floatInteger =>
    rw [floatToInteger_eq, floatToInteger_eq, mask_repeat, isEmpty_repeat]
    cases a.mask.isEmpty with
    | true => rfl
    | false => exact map_elems_repeat .i f2i a.mask.elems k

end V.Np
