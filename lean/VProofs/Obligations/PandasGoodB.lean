/-
  The driver evaluates `goodB` on the abstraction α(series) of every generated input, so the harness reports for which
  real inputs the hypotheses of the `…_pandas` theorems hold (and checks, on those, the theorems' conclusions against the
  real code); inputs where it is false are the excluded ones (known findings F09–F12, F26, F27, F29–F31 and dtypes
  outside the model).
-/
import VProofs.Obligations.PandasWF
namespace V.Pd
open V V.Gen

/-! The tests write "`a` implies `b`" as `!a || b` and "a non-missing cell satisfies `b`" as `x.null || b`
(`or_eq_true_imp` with `Bool.not_eq_false'`); read connective by connective, what is left to each soundness proof is
the meaning of the atomic tests. -/

theorem okTrue_iff (r : R Bool) : okTrue r = true ↔ r = .ok true := by
  cases r with
  | error e => simp [okTrue]
  | ok b => cases b <;> simp [okTrue]

theorem isOkR_iff {α : Type} (r : R α) : isOkR r = true ↔ ∃ v, r = .ok v := by
  cases r <;> simp [isOkR]

theorem isFloatPay_iff (x : Cell) : isFloatPay x = true ↔ ∃ v, x.pay = .float v := by
  unfold isFloatPay; cases x.pay <;> simp

theorem isTsPay_iff (x : Cell) : isTsPay x = true ↔ ∃ d ns tz, x.pay = .ts d ns tz := by
  unfold isTsPay; cases x.pay <;> simp

theorem cellWFB_sound {x : Cell} (h : cellWFB x = true) : CellWF x :=
  ⟨by simpa only [cellWFB, or_eq_true_imp, Bool.not_eq_false'] using h⟩

theorem payWFB_sound {x : Cell} (h : payWFB x = true) : PayWF x := by
  constructor
  intro re im hp
  simp only [payWFB, hp, beq_iff_eq] at h
  rw [h]; simp

theorem strExclB_sound {f : StrFacts} (h : strExclB f = true) : StrExcl f := by
  intro a ha b hb hne h1 h2 hab
  have := List.all_eq_true.mp (List.all_eq_true.mp h a ha) b hb
  simp only [Bool.or_eq_true, beq_iff_eq, Bool.and_eq_true, Bool.not_eq_true', Bool.and_eq_false_iff] at this
  rcases this with ((h3 | h3) | h3) | h3
  · exact hne h3
  · exact h1 h3
  · exact h2 h3
  · rcases h3 with h3 | h3
    · rw [hab.1] at h3; cases h3
    · rw [hab.2] at h3; cases h3

theorem floatComplexB_sound {f : StrFacts} (h : floatComplexB f = true) : FloatComplex f := by
  intro v hv
  simp only [floatComplexB, hv] at h
  cases hc : f.complexVal with
  | ok p => rw [hc] at h; exact ⟨p.1, p.2, rfl, h⟩
  | raises cls => rw [hc] at h; cases h

theorem ipClsB_sound {f : StrFacts} (h : ipClsB f = true) : IpCls f := by
  intro cls r hv
  simpa only [ipClsB, hv, Bool.and_eq_true, bne_iff_ne, ne_eq] using h

theorem strGoodB_sound {x : Cell} (h : strGoodB x = true) (f : StrFacts) (hf : x.str = some f) :
    StrExcl f ∧ FloatComplex f ∧ IpCls f := by
  simp only [strGoodB, hf, Bool.and_eq_true] at h
  obtain ⟨⟨excl, floatComplex⟩, ipCls⟩ := h
  exact ⟨strExclB_sound excl, floatComplexB_sound floatComplex, ipClsB_sound ipCls⟩

theorem outCellB_sound {x : Cell} (h : outCellB x = true) : OutCell x := by
  simp only [outCellB, Bool.and_eq_true, or_eq_true_imp, Bool.not_eq_true', Option.isNone_iff_eq_none, imp_and] at h
  obtain ⟨⟨⟨str, wf⟩, pay⟩, ⟨⟨notPath, notStr⟩, head⟩, ts⟩ := h
  exact { str := str, wf := cellWFB_sound wf, pay := payWFB_sound pay, notPath := notPath, notStr := notStr,
          head := fun hn => headExclB_sound (head hn),
          ts := fun hn d ns tz hd => by simpa only [hd, Bool.and_eq_true, decide_eq_true_eq] using ts hn }

theorem tsCellB_sound {y : Cell} (h : tsCellB y = true) : TsCell y := by
  simp only [tsCellB, Bool.and_eq_true, or_eq_true_imp, Bool.not_eq_true', List.all_eq_true, isTsPay_iff, imp_and] at h
  obtain ⟨out, pay, plain⟩ := h
  exact { out := outCellB_sound out, pay := pay, plain := plain }

theorem acceptsStrB_of {o : ColOracle} {d : Ty} {c : Column} (h : acceptsStr o d c) : acceptsStrB o d c = true := by
  obtain ⟨g, hg, hacc⟩ := h
  simp only [acceptsStrB, hg]
  exact (okTrue_iff _).mpr hacc

theorem dtResB_sound {o : ColOracle} {c : Column} (h : dtResB o c = true) : DtLands o c ∧ DtOut o c := by
  refine ⟨fun r tz hq => ?_, fun r tz hq => ?_⟩
  all_goals simp only [dtResB, hq, Bool.and_eq_true, List.any_eq_true, List.all_eq_true, Bool.not_eq_true'] at h
  · exact h.1
  · exact fun y hy => tsCellB_sound (h.2 y hy)

theorem goodB_sound (o : ColOracle) (c : Column) (h : goodB o c = true) : Good o c := by
  simp only [goodB, cellGoodB, dtypePayB, oracleB, excl16B, noRaiseB, Bool.and_eq_true, or_eq_true_imp, Bool.not_eq_false',
    Bool.not_eq_true', List.all_eq_true, isFloatPay_iff, isTsPay_iff, okTrue_iff, imp_and, forall_and] at h
  -- `imp_and`, `forall_and`: one statement per conjunct of `cellGoodB`, each about every cell
  obtain ⟨⟨⟨⟨⟨⟨⟨⟨⟨cellwf, paywf⟩, strNotNull⟩, headExcl⟩, strGood⟩, dtypeCells⟩, float, datetime⟩, dtExcl, dtRes⟩, excl16⟩,
    noRaise⟩ := h
  exact {
    cellwf := fun x hx => cellWFB_sound (cellwf x hx)
    paywf := fun x hx => payWFB_sound (paywf x hx)
    strNotNull := strNotNull
    dtypeCells := dtypeCells
    headExcl := fun x hx hn => headExclB_sound (headExcl x hx hn)
    strHyp := fun x hx => strGoodB_sound (strGood x hx)
    dtypePay := { float := float, datetime := datetime }
    dtExcl := by
      intro hs hdt d hd hacc
      have := dtExcl hs hdt d hd
      rw [acceptsStrB_of hacc] at this; cases this
    dtLands := fun hs => (dtResB_sound (dtRes hs)).1
    dtOut := fun hs => (dtResB_sound (dtRes hs)).2
    excl16 := fun child => excl16 child (Ty.mem_all child)
    noRaise := by
      intro src dst g t hg ht hsrc hacc
      have := noRaise src (Ty.mem_all src) dst (Ty.mem_all dst)
      rw [hg, ht] at this
      simp only [or_eq_true_imp, Bool.or_eq_false_iff, Bool.not_eq_false', and_imp, okTrue_iff, isOkR_iff] at this
      exact this hsrc hacc }

end V.Pd
