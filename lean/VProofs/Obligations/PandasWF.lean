/-
  `pandas_WF`: the pandas model is a well-formed type system (`TS.WF`) relative to the invariant `Good`, so the engine
  lifting theorems (C02, C03, C04, C15, C16) hold for every typeset over the 22 types of `completeSet` and every column
  satisfying `Good`.  `Good o c` collects the named hypotheses of the local obligations: facts about CPython classes
  (`CellWF`, `HeadExcl`), about `isna` (`PayWF`), about the element parsers and `pd.to_datetime` (`StrExcl`,
  `FloatComplex`, `DtExcl`, `DtLands`), and the exclusion of the inputs of the known findings (`Excl16`, `NoRaise`).
  Each is validated by the harness on every generated column; where one is false for particular inputs, that is a
  known finding.
-/
import VProofs.Obligations.PandasNested
import VProofs.Obligations.PandasMutex
import VProofs.Obligations.PandasLands
import VProofs.Lemmas.PandasTS
namespace V.Pd
open V V.Gen

/-- the transformer of an accepting relation does not raise (excludes the inputs of findings F29–F31) -/
def NoRaise (o : ColOracle) (c : Column) : Prop :=
  ∀ src dst g t, guard o src dst = some g → xform o src dst = some t → containsB src c = true →
    g c = .ok true → ∃ c', t c = .ok c'

/-- the class name `ip_address(s)` reports is an address class, not `date`/`time` -/
def IpCls (f : StrFacts) : Prop := ∀ cls r, f.ip = .ok (cls, r) → cls ≠ "date" ∧ cls ≠ "time"

/-- what the dtype guarantees about the payload of non-missing cells -/
structure DtypePay (c : Column) : Prop where
  float : c.dtype.isFloat = true → ∀ x ∈ c.cells, x.null = false → ∃ v, x.pay = .float v
  datetime : c.dtype.isDatetime = true → ∀ x ∈ c.cells, x.null = false → ∃ d ns tz, x.pay = .ts d ns tz

/-- a cell produced by a transformer (`ts`: 3652059 is the ordinal of 9999-12-31, the bound `datetimeToDate` tests) -/
structure OutCell (x : Cell) : Prop where
  str : x.str = none
  wf : CellWF x
  pay : PayWF x
  notPath : x.null = false → x.isPath = false
  notStr : x.null = false → x.isStr = false
  head : x.null = false → HeadExcl x
  ts : x.null = false → ∀ d ns tz, x.pay = .ts d ns tz → 1 ≤ d ∧ d ≤ 3652059

/-- a cell of a `pd.to_datetime` result: a produced cell that is `NaT` or a timestamp -/
structure TsCell (y : Cell) : Prop where
  out : OutCell y
  pay : y.null = false → ∃ d ns tz, y.pay = .ts d ns tz
  plain : y.null = false → ∀ a ∈ objValued, objPred a y = false

/-- `pd.to_datetime` returns timestamps or `NaT`, and the timestamps are representable as `datetime.date`
(years 1..9999, part of `OutCell`; false for the inputs of known finding F31) -/
def DtOut (o : ColOracle) (c : Column) : Prop :=
  ∀ r tz, o.toDatetime c.cells = .ok (r, tz) → ∀ y ∈ r, TsCell y

/-- by use: `cellwf`, `excl16` serve nesting; `dtypeCells`, `headExcl`, `strNotNull`, `dtExcl` and the first two parts of
`strHyp` (`Good.strExcl`) sibling exclusivity; `paywf`, `strNotNull`, `dtLands` landing (`Good.landsHyp`); `noRaise` gives
the transformer's result; `dtypePay`, `dtOut` and the `IpCls` part of `strHyp` serve only the closure proof (PandasClosed) -/
structure Good (o : ColOracle) (c : Column) : Prop where
  cellwf : ∀ x ∈ c.cells, CellWF x
  paywf : ∀ x ∈ c.cells, PayWF x
  strNotNull : StrNotNull c
  dtypeCells : DtypeCells c
  headExcl : ∀ x ∈ c.cells, x.null = false → HeadExcl x
  strHyp : ∀ x ∈ c.cells, ∀ f, x.str = some f → StrExcl f ∧ FloatComplex f ∧ IpCls f
  dtypePay : DtypePay c
  dtExcl : containsB .String c = true → DtExcl o c
  dtLands : containsB .String c = true → DtLands o c
  dtOut : containsB .String c = true → DtOut o c
  excl16 : ∀ child, containsB child c = true → Excl16 child c = false
  noRaise : NoRaise o c

section
variable {o : ColOracle} {c : Column} (hG : Good o c)
include hG

theorem Good.landsHyp : LandsHyp o c := { pay := hG.paywf, strNotNull := hG.strNotNull, dt := hG.dtLands }

theorem Good.strExcl : ∀ x ∈ c.cells, ∀ f, x.str = some f → StrExcl f ∧ FloatComplex f := fun x hx f hf =>
  have ⟨excl, floatComplex, _⟩ := hG.strHyp x hx f hf
  ⟨excl, floatComplex⟩

theorem Good.ipCls : ∀ x ∈ c.cells, ∀ f, x.str = some f → IpCls f := fun x hx f hf => (hG.strHyp x hx f hf).2.2

end

/-- transformer outputs of good columns are good (proved in PandasClosed: `outputs_good`) -/
def OutputsGood (o : ColOracle) : Prop :=
  ∀ src dst g t c c', guard o src dst = some g → xform o src dst = some t → Good o c →
    containsB src c = true → g c = .ok true → t c = .ok c' → Good o c'

theorem pandas_WF (o : ColOracle) (b : Built Ty) (ft : FromTable b) (og : OutputsGood o) :
    (pandasTS o b).WF (Good o) := by
  refine (backend o).wf _ b (Good o) (height_of_rank ft.rank) ft.nodupDst ?hnest ?hmutex ?hlands
  case hnest =>
    intro e he hi x hG hc
    exact C16.C16_nested_pandas e.dst e.src (table_identity_parent e.dst ⟨e.src, e.inferential⟩ (ft.decl e he) hi) x hG.cellwf
      (hG.excl16 e.dst hc) hc
  case hmutex =>
    -- two accepting edges `⟨n, d₁, i₁⟩`, `⟨n, d₂, i₂⟩` out of `n` (source, target, inferential)
    rintro _ x hG hc ⟨_, d₁, i₁⟩ h₁ ⟨n, d₂, i₂⟩ h₂ rfl rfl a₁ a₂
    have m₁ := ft.outOf h₁
    have m₂ := ft.outOf h₂
    refine Decidable.byContradiction fun hne => ?_
    by_cases hgen : n = .Generic
    · subst hgen
      have ⟨j₁, c₁⟩ := outOf_generic _ m₁
      have ⟨j₂, c₂⟩ := outOf_generic _ m₂
      exact mutex_generic x d₁ d₂ c₁ c₂ hne ⟨a₁.id j₁, a₂.id j₂⟩
    · by_cases hobj : n = .Object
      · subst hobj
        have acc : ∀ d i, (backend o).Accepts ⟨.Object, d, i⟩ x → (i = true ↔ d = .Boolean) → acceptsObj d x := by
          intro d i a hb
          cases i with
          | true =>
            cases hb.mp rfl
            obtain ⟨_, ⟨⟩, h⟩ := a.inf rfl
            exact h
          | false => exact (acceptsObj_iff (fun h => Bool.noConfusion (hb.mpr h)) x).mpr (a.id rfl)
        exact mutex_object x (hasValue_of_contains (t := .Object) rfl hc) hG.dtypeCells hG.headExcl d₁ d₂
          (outOf_object _ m₁).1 (outOf_object _ m₂).1 hne
          ⟨acc d₁ i₁ a₁ (outOf_object _ m₁).2, acc d₂ i₂ a₂ (outOf_object _ m₂).2⟩
      · by_cases hstr : n = .String
        · subst hstr
          have ⟨j₁, c₁⟩ := outOf_string _ m₁
          have ⟨j₂, c₂⟩ := outOf_string _ m₂
          exact mutex_string o x (hasValue_of_contains (t := .String) rfl hc) hG.strNotNull hG.strExcl (hG.dtExcl hc)
            d₁ d₂ c₁ c₂ hne ⟨a₁.inf j₁, a₂.inf j₂⟩
        · exact hne (outOf_other_subsingleton n ⟨hgen, hobj, hstr⟩ _ m₁ _ m₂)
  case hlands =>
    intro e he hi g hgd x hG hc hgx
    obtain ⟨t, r⟩ := Row.of_guard hgd
    have htd := r.xform_eq
    obtain ⟨c', hc'⟩ := hG.noRaise e.src e.dst g t hgd htd hc hgx
    exact ⟨t, c', htd, hc', lands_pandas o e.src e.dst g t hgd htd x c' hG.landsHyp hc hgx hc',
      og e.src e.dst g t x c' hgd htd hG hc hgx hc'⟩

end V.Pd
