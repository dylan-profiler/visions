import VProofs.Lemmas.PandasL
import VProofs.Lemmas.Table
namespace V.Pd
open V V.Gen

/-- facts about CPython's class hierarchy that relate cell bits (validated by α on every cell) -/
structure CellWF (x : Cell) : Prop where
  path_pure : x.isPath = true → x.isPurePath = true

theorem unsigned_integer (d : DKind) (h : d.isUnsigned = true) : d.isInteger = true := by
  cases d with
  | object => cases h
  | fam f => revert h; cases f <;> decide

-- in `V.C16` because the C16 check lists it under that name
/-- L1 = C16 on the pandas model: membership is upward closed along each of the 23 identity relations of the generated
table, outside the two classes of columns (`Excl16`: known findings F26, F27) on which the *code*, and hence the model,
breaks it (witnesses: `C16_witness_F26`, `C16_witness_F27`) -/
theorem _root_.V.C16.C16_nested_pandas (child parent : V.Gen.Ty) (hp : Pd.parentOf child = some parent) (c : Column)
    (wf : ∀ x ∈ c.cells, Pd.CellWF x) (hex : Pd.Excl16 child c = false) (h : Pd.containsB child c = true) :
    Pd.containsB parent c = true := by
  cases child <;> cases hp
  -- the ten children of `Generic`, which holds every column
  case Boolean | Categorical | Complex | DateTime | Float | Integer | Object | TimeDelta | Sparse | Numeric => rfl
  case String =>
    refine contains_mono h id (fun hd => ?_) fun _ _ _ _ => rfl
    simp only [dtypeOk, objectish] at hd ⊢
    revert hd; cases c.dtype.isCategorical <;> cases c.dtype.isObject <;> simp
  case Count => exact contains_mono h id (unsigned_integer _) fun _ _ _ _ => rfl
  case File =>
    refine contains_mono h id id fun x hx hn hc => ?_
    simp only [Excl16, List.any_eq_false, Bool.and_eq_true, Bool.not_eq_true', not_and, Bool.not_eq_false] at hex
    simp only [cellOk, Bool.and_eq_true] at hc ⊢
    exact ⟨(wf x hx).path_pure hc.1, hex x hx hn⟩
  case Image => exact contains_mono h id id fun _ _ _ hc => by simp only [cellOk, Bool.and_eq_true] at hc ⊢; exact hc.1
  case Ordinal => exact contains_mono h id (fun hd => by simp only [dtypeOk, Bool.and_eq_true] at hd ⊢; exact hd.1) fun _ _ _ _ => rfl
  -- a value, and (outside F27) an object-ish dtype
  case Date | Time | URL | UUID | EmailAddress | Path | Geometry | IPAddress =>
    exact contains_mono h id (fun _ => (Bool.not_eq_false' _).mp hex) fun _ _ _ _ => rfl

/-- an all-missing `string`-dtype column is in neither `String` nor `Object` (finding F24, repaired in the code: commit
75d7268) -/
theorem fixed_F24 :
    let c : Column := ⟨.fam .string, [Cell.missing .pdNA, Cell.missing .pdNA], ["0", "1"], "None"⟩
    stringContains c = false ∧ objectContains c = false := by decide

example :
    let s : Cell := { Cell.blank with cls := "str", isStr := true, strEq := .ok true }
    let c : Column := ⟨.object, [s, Cell.missing .none_], ["0", "1"], "None"⟩
    stringContains c = true ∧ objectContains c = true := by decide

end V.Pd
