/-
  `Good` is closed under the 14 transformers (`outputs_good`).  Every output is a column of *produced* cells (`OutCell`:
  built by the model's smart constructors, or a missing cell carried over), and such a column satisfies `Good` for every
  oracle (`good_of_outCol`).  A cell made by a smart constructor has at most one of the ten kinds of `objChildren`
  (`OnlyKind`, by one evaluation per constructor: `made_sound`) — hence `HeadExcl`, and, by which kind that is, either
  none of the object-valued kinds (`NumOut`) or not a boolean (`ObjOut`).
-/
import VProofs.Obligations.PandasGoodB
namespace V.Pd
open V V.Gen V.C06

/-- a column of produced cells.  `obj`: an object column of them holds no booleans, which is why Object→Boolean refuses
it; `nonobj`: under any other dtype it holds none of the object-valued kinds (the columns of F27 are not produced) -/
structure OutCol (c : Column) : Prop where
  cells : ∀ x ∈ c.cells, OutCell x
  notString : c.dtype.isStringNonObject = false
  obj : c.dtype = .object → ∀ x ∈ c.cells, x.null = false → x.inBoolSet ≠ .ok true
  nonobj : c.dtype ≠ .object → objectish c.dtype = false ∧
    ∀ x ∈ c.cells, x.null = false → ∀ a ∈ objValued, objPred a x = false
  dtypePay : DtypePay c

theorem objValued_sub : ∀ a ∈ objValued, a ∈ objChildren ∧ a ≠ .Boolean ∧ shapeOf a = .hasValue := by decide

theorem outCol_not_string {c : Column} (h : OutCol c) : containsB .String c ≠ true := by
  intro hs
  -- its dtype is no string dtype, so it would be an object column of `str` values
  have ⟨_, hd, hc⟩ := containsB_iff.mp hs
  obtain ⟨x, hx, hn⟩ := hasValue_of_contains (t := .String) rfl hs
  have hc := hc x hx hn
  simp only [dtypeOk, cellOk, h.notString, Bool.or_false, Bool.and_eq_true, Bool.or_eq_true, Bool.not_eq_true'] at hd hc
  rcases hc with ho | hc
  · rw [hd.2] at ho; cases ho
  · rw [(h.cells x hx).notStr hn] at hc; cases hc.1

theorem good_of_outCol (o : ColOracle) (c : Column) (h : OutCol c) : Good o c where
  cellwf := fun x hx => (h.cells x hx).wf
  paywf := fun x hx => (h.cells x hx).pay
  strNotNull := by
    intro x hx hs
    rw [(h.cells x hx).str] at hs; cases hs
  dtypeCells := fun hh => by rw [h.notString] at hh; cases hh
  headExcl := fun x hx hn => (h.cells x hx).head hn
  strHyp := by
    intro x hx f hf
    rw [(h.cells x hx).str] at hf; cases hf
  dtypePay := h.dtypePay
  dtExcl := fun hs => absurd hs (outCol_not_string h)
  dtLands := fun hs => absurd hs (outCol_not_string h)
  dtOut := fun hs => absurd hs (outCol_not_string h)
  excl16 := by
    intro child hc
    have key : ∀ a ∈ objValued, containsB a c = true → (!objectish c.dtype) = false := by
      intro a ha hc
      have ⟨hm, hb, hsh⟩ := objValued_sub a ha
      by_cases hd : c.dtype = .object
      · rw [hd]; rfl
      · obtain ⟨x, hx, hn⟩ := hasValue_of_contains hsh hc
        have h1 := acceptsObj_pred hm (fun hh => by rw [h.notString] at hh; cases hh) ((acceptsObj_iff hb c).mpr hc) x hx hn
        rw [(h.nonobj hd).2 x hx hn a ha] at h1; cases h1
    cases child
    case File =>
      -- no produced cell is a concrete path
      obtain ⟨x, hx, hn⟩ := hasValue_of_contains (t := .File) rfl hc
      obtain ⟨_, _, cellsOk⟩ := containsB_iff.mp hc
      have := cellsOk x hx hn
      simp only [cellOk, (h.cells x hx).notPath hn, Bool.false_and] at this
      cases this
    case Date | Time | URL | UUID | EmailAddress | Path | Geometry | IPAddress => exact key _ (by decide) hc
    -- `Excl16` excludes nothing at any other type
    all_goals rfl
  noRaise := by
    intro src dst g t hg ht hsrc hacc
    cases Row.of hg ht
    case objectBoolean =>
      -- an object column of produced cells holds no booleans, any other produced column is not in `Object`
      exfalso
      by_cases hd : c.dtype = .object
      · obtain ⟨x, hx, hn⟩ := hasValue_of_contains (t := .Object) rfl hsrc
        exact h.obj hd x hx hn (accepts_objectIsBoolean hacc x hx hn)
      · have h1 : objectish c.dtype = true := dtypeOk_of_contains hsrc
        rw [(h.nonobj hd).1] at h1; cases h1
    case complexFloat => exact ⟨_, rfl⟩
    case floatInteger => exact ⟨_, rfl⟩
    case datetimeDate =>
      -- the timestamps of a produced column are within the range of `datetime.date`
      simp only [datetimeToDate]
      split
      · rename_i hany
        exfalso
        obtain ⟨x, hx, hb⟩ := List.any_eq_true.mp hany
        simp only [Bool.and_eq_true, Bool.not_eq_true'] at hb
        obtain ⟨hn, hb⟩ := hb
        cases hp : x.pay with
        | ts d ns tz =>
          have := (h.cells x hx).ts hn d ns tz hp
          rw [hp] at hb
          simp only [Bool.or_eq_true, decide_eq_true_eq] at hb
          omega
        | _ => rw [hp] at hb; cases hb
      · exact ⟨_, rfl⟩
    case stringBoolean | stringComplex | stringDatetime | stringFloat | stringGeometry | stringIp | stringPath | stringUrl |
        stringUuid | stringEmail =>
      exact absurd hsrc (outCol_not_string h)

def OnlyKind (k : Ty) (x : Cell) : Prop := ∀ a ∈ objChildren, objPred a x = true → a = k

theorem OnlyKind.headExcl {k : Ty} {x : Cell} (h : OnlyKind k x) : HeadExcl x :=
  fun a ha b hb hne hab => hne ((h a ha hab.1).trans (h b hb hab.2).symm)

/-- the kinds of `objChildren` that are not a test of the class name -/
def flagKinds : List Ty := [.String, .URL, .UUID, .EmailAddress, .Path, .Geometry, .IPAddress, .Boolean]

/-- a cell built by a smart constructor, checkable; of the kinds other than `Date` / `Time` at most `k` -/
def madeB (k : Ty) (x : Cell) : Bool :=
  x.str.isNone && !x.isStr && !x.isPath && !isTsPay x && flagKinds.all fun a => a == k || !objPred a x

/-- what the class name says is passed in (`hc`): string equality is slow to evaluate -/
theorem made_sound {x : Cell} {k : Ty} (hc : (x.cls = "date" → k = .Date) ∧ x.cls ≠ "time") (pw : payWFB x = true)
    (h : madeB k x = true) : OutCell x ∧ OnlyKind k x := by
  simp only [madeB, Bool.and_eq_true, Bool.not_eq_true', Option.isNone_iff_eq_none, List.all_eq_true] at h
  obtain ⟨⟨⟨⟨hs, hstr⟩, hpath⟩, hts⟩, hk⟩ := h
  have kinds : objChildren ⊆ .Date :: .Time :: flagKinds := by decide
  have only : OnlyKind k x := fun a ha hp => by
    rcases List.mem_cons.mp (kinds ha) with rfl | ha
    · exact (hc.1 (eq_of_beq hp)).symm
    rcases List.mem_cons.mp ha with rfl | ha
    · exact absurd (eq_of_beq hp) hc.2
    · simpa [hp] using hk a ha
  exact ⟨{ str := hs, wf := ⟨fun hp => by rw [hpath] at hp; cases hp⟩, pay := payWFB_sound pw,
           notPath := fun _ => hpath, notStr := fun _ => hstr, head := fun _ => only.headExcl,
           ts := fun _ d ns tz hp => by rw [isTsPay, hp] at hts; cases hts }, only⟩

/-- a produced cell of a numeric / temporal column -/
def NumOut (x : Cell) : Prop := OutCell x ∧ (x.null = false → ∀ a ∈ objValued, objPred a x = false)

/-- a produced cell of an object column -/
def ObjOut (x : Cell) : Prop := OutCell x ∧ (x.null = false → x.inBoolSet ≠ .ok true)

/-- the numeric constructors get kind `Boolean`: `1 in {True, False}` holds in Python, so `inBoolSet` may be true of a
number; none of the other nine kinds of `objChildren` can hold of one -/
theorem numOut_of_made {x : Cell} (h : OutCell x ∧ OnlyKind .Boolean x) : NumOut x :=
  ⟨h.1, fun _ a ha => Bool.eq_false_iff.mpr fun hp =>
    have ⟨child, notBoolean, _⟩ := objValued_sub a ha
    notBoolean (h.2 a child hp)⟩

theorem objOut_of_made {k : Ty} {x : Cell} (hk : k ≠ .Boolean) (h : OutCell x ∧ OnlyKind k x) : ObjOut x :=
  ⟨h.1, fun _ hb => hk (h.2 .Boolean (by decide) (beq_iff_eq.mpr hb)).symm⟩

theorem out_of_null {x : Cell} (hn : x.null = true) (hs : x.str = none) (wf : CellWF x) (pw : PayWF x) :
    NumOut x ∧ ObjOut x :=
  have no : ∀ {P : Prop}, x.null = false → P := fun h => by rw [hn] at h; cases h
  have out : OutCell x := { str := hs, wf := wf, pay := pw, notPath := no, notStr := no, head := no, ts := no }
  ⟨⟨out, no⟩, out, no⟩

theorem out_missing (k : NaKind) : NumOut (Cell.missing k) ∧ ObjOut (Cell.missing k) :=
  out_of_null rfl rfl (cellWFB_sound rfl) (payWFB_sound (by cases k <;> rfl))

theorem numOut_ofBool (b : Bool) : NumOut (Cell.ofBool b) :=
  numOut_of_made (made_sound (by simp [Cell.ofBool]) rfl rfl)

theorem numOut_ofInt (z : Int) : NumOut (Cell.ofInt z) :=
  numOut_of_made (made_sound (by simp [Cell.ofInt]) rfl rfl)

theorem numOut_ofFloat (v : FloatV) : NumOut (Cell.ofFloat v) := by
  unfold Cell.ofFloat; split
  · exact (out_missing _).1
  · exact numOut_of_made (made_sound (by simp) rfl rfl)

theorem numOut_ofComplex (re im : FloatV) : NumOut (Cell.ofComplex re im) :=
  numOut_of_made (made_sound (by simp [Cell.ofComplex]) (beq_self_eq_true _) rfl)

theorem objOut_ofDate (d : Int) : ObjOut (Cell.ofDate d) :=
  objOut_of_made (k := .Date) nofun (made_sound ⟨fun _ => rfl, by simp [Cell.ofDate]⟩ rfl rfl)

/-- the parsed cells (an address class is not called `date` or `time`: `IpCls`) -/
theorem objOut_parsed {d : Ty} {f : StrFacts} {y : Cell} (hip : IpCls f) (h : Parsed d f y) : ObjOut y := by
  refine objOut_of_made (k := d) (by cases h <;> nofun) ?_
  cases h with
  | ip hw => exact made_sound ⟨fun h => absurd h (hip _ _ hw).1, (hip _ _ hw).2⟩ rfl rfl
  | _ =>
    exact made_sound (by simp [geomCell, purePathCell, urlCell, uuidCell, emailCell, Cell.ofObj]) rfl rfl

theorem outCol_num {c : Column} {f : PdFam} (hs : (DKind.fam f).isStringNonObject = false)
    (ho : objectish (.fam f) = false) (hp : DtypePay c) (h : c.dtype = .fam f ∧ ∀ x ∈ c.cells, NumOut x) : OutCol c where
  cells := fun x hx => (h.2 x hx).1
  notString := h.1 ▸ hs
  obj := fun hh => by rw [h.1] at hh; cases hh
  nonobj := fun _ => ⟨h.1 ▸ ho, fun x hx => (h.2 x hx).2⟩
  dtypePay := hp

/-- `outCol_num` where `DtypePay` is vacuous -/
theorem outCol_plain {c : Column} {f : PdFam} (hf : f ∈ [.bool, .boolean, .complex, .int, .Int])
    (h : c.dtype = .fam f ∧ ∀ x ∈ c.cells, NumOut x) : OutCol c :=
  have key : ∀ f ∈ [PdFam.bool, .boolean, .complex, .int, .Int], (DKind.fam f).isStringNonObject = false ∧
      objectish (.fam f) = false ∧ (DKind.fam f).isFloat = false ∧ (DKind.fam f).isDatetime = false := by decide
  have ⟨hs, ho, hfl, hdt⟩ := key f hf
  outCol_num hs ho ⟨fun hh => (by rw [h.1, hfl] at hh; cases hh), fun hh => (by rw [h.1, hdt] at hh; cases hh)⟩ h

theorem ofFloat_pay (v : FloatV) (h : (Cell.ofFloat v).null = false) : (Cell.ofFloat v).pay = .float v := by
  unfold Cell.ofFloat at h ⊢; split
  · rename_i hv; simp [hv, Cell.missing] at h
  · rfl

theorem outCol_float {c : Column} (h : c.dtype = .fam .float ∧ ∀ x ∈ c.cells, ∃ v, x = Cell.ofFloat v) : OutCol c := by
  refine outCol_num rfl rfl ⟨fun _ x hx hn => ?_, by rw [h.1]; nofun⟩ ⟨h.1, fun x hx => ?_⟩
  · obtain ⟨v, rfl⟩ := h.2 x hx; exact ⟨v, ofFloat_pay v hn⟩
  · obtain ⟨v, rfl⟩ := h.2 x hx; exact numOut_ofFloat v

theorem outCol_obj {c : Column} (h : c.dtype = .object ∧ ∀ x ∈ c.cells, ObjOut x) : OutCol c where
  cells := fun x hx => (h.2 x hx).1
  notString := by rw [h.1]; rfl
  obj := fun _ x hx => (h.2 x hx).2
  nonobj := fun hh => absurd h.1 hh
  dtypePay := ⟨by rw [h.1]; nofun, by rw [h.1]; nofun⟩

theorem mapCells_out {α : Type} {d : DKind} {e : Cell → Outcome α} {g : α → Cell} {c c' : Column} {P : Cell → Prop}
    (h : mapCells d e g c = .ok c') (hP : ∀ x ∈ c.cells, ∀ a, e x = .ok a → P (g a)) :
    c'.dtype = d ∧ ∀ y ∈ c'.cells, P y := by
  refine ⟨(mapCells_spec h).dtype, fun y hy => ?_⟩
  obtain ⟨x, hx, a, ha, rfl⟩ := (mapCells_spec h).cells.exists_of_mem_right hy
  exact hP x hx a ha

theorem out_objectToBoolean {c c' : Column} (h : objectToBoolean c = .ok c') : OutCol c' := by
  refine outCol_plain (by cases c.hasnans <;> decide) (mapCells_out (objectToBoolean_ok h) fun x _ y hy => ?_)
  unfold boolCell at hy
  split at hy
  · cases hy; exact (out_missing _).1
  · split at hy <;> cases hy
    exact numOut_ofBool _

theorem out_strMapped {d : Ty} {c c' : Column} (hw : ∀ x ∈ c.cells, CellWF x ∧ PayWF x)
    (hip : ∀ x ∈ c.cells, ∀ f, x.str = some f → IpCls f) (hm : StrMapped (Parsed d) c c') : OutCol c' := by
  refine outCol_obj ⟨hm.dtype, fun y hy => ?_⟩
  obtain ⟨x, hx, hxy⟩ := hm.cells.exists_of_mem_right hy
  rcases hxy with ⟨hs, hn, rfl⟩ | ⟨f, hf, hpy⟩
  · exact (out_of_null hn hs (hw _ hx).1 (hw _ hx).2).2
  · exact objOut_parsed (hip x hx f hf) hpy

theorem outputs_outCol {o : ColOracle} {src dst : Ty} {g : Column → R Bool} {t : Column → R Column} {c c' : Column}
    (hg : guard o src dst = some g) (ht : xform o src dst = some t) (hG : Good o c)
    (hsrc : containsB src c = true) (hx : t c = .ok c') : OutCol c' := by
  cases Row.of hg ht
  case objectBoolean => exact out_objectToBoolean hx
  case stringBoolean => exact out_objectToBoolean (stringToBoolean_eq c ▸ hx)
  case stringComplex =>
    refine outCol_plain (by decide) (mapCells_out (stringToComplex_eq c ▸ hx) fun _ _ _ _ => ?_)
    unfold complexCell
    split <;> exact numOut_ofComplex _ _
  case stringDatetime =>
    obtain ⟨r, tz, hq, rfl⟩ := stringToDatetime_ok hx
    have hr := hG.dtOut hsrc r tz hq
    exact outCol_num (by cases tz <;> rfl) (by cases tz <;> rfl) ⟨by cases tz <;> nofun, fun _ y hy hn => (hr y hy).pay hn⟩
      ⟨rfl, fun y hy => ⟨(hr y hy).out, (hr y hy).plain⟩⟩
  case stringFloat => exact outCol_float (mapCells_out (stringToFloat_eq c ▸ hx) fun _ _ v _ => ⟨v, rfl⟩)
  case complexFloat =>
    refine outCol_float (mapCells_out (complexToFloat_eq c ▸ hx) fun x _ y hy => ?_)
    cases hy
    unfold realPartCell
    split
    · exact ⟨_, rfl⟩
    · exact ⟨.nan, rfl⟩
  case floatInteger =>
    have hf : c.dtype.isFloat = true := dtypeOk_of_contains hsrc
    refine outCol_plain (by cases c.hasnans <;> decide) (mapCells_out (floatToInteger_eq c ▸ hx) fun x hxm y hy => ?_)
    cases hy
    unfold intCell
    cases hn : x.null with
    | true => exact (out_missing _).1
    | false =>
      obtain ⟨v, hv⟩ := hG.dtypePay.float hf x hxm hn
      simp only [Bool.false_eq_true, if_false, hv]; exact numOut_ofInt _
  case datetimeDate =>
    have hf : c.dtype.isDatetime = true := dtypeOk_of_contains hsrc
    refine outCol_obj (mapCells_out (datetimeToDate_ok hx) fun x hxm y hy => ?_)
    cases hy
    unfold dateCell
    cases hn : x.null with
    | true => exact (out_missing _).2
    | false =>
      obtain ⟨d, ns, tz, hv⟩ := hG.dtypePay.datetime hf x hxm hn
      simp only [Bool.false_eq_true, if_false, hv]; exact objOut_ofDate _
  case stringGeometry | stringIp | stringPath | stringUrl | stringUuid | stringEmail =>
    exact out_strMapped (fun x hx => ⟨hG.cellwf x hx, hG.paywf x hx⟩) hG.ipCls (strObj_ok (Row.of hg ht) (by decide) hx)

theorem outputs_good (o : ColOracle) : OutputsGood o := by
  intro src dst g t c c' hg ht hG hsrc hacc hx
  exact good_of_outCol o c' (outputs_outCol hg ht hG hsrc hx)

/-- `pandas_WF` with no further hypothesis -/
theorem pandas_WF' (o : ColOracle) (b : Built Ty) (ft : FromTable b) : (pandasTS o b).WF (Good o) :=
  pandas_WF o b ft (outputs_good o)

end V.Pd
