/-
  L4 (reordering) for the numpy model: acceptance of every relation test depends on the bag only (`AccBagN`), every
  transformer maps equal bags to equal bags (`EquiBagN`).  Hypotheses: the element facts of `goodB` (for `_is_string`'s
  prefix test), `FlCaught` (otherwise WHICH exception escapes first could depend on the order: C09's subject), and `DtBagN`.
-/
import VProofs.Obligations.NumpyWF
namespace V.Np
open V V.Gen

/-- The tests read `perm` only through which elements occur (`mem`); the transformers need the permutation itself (`Perm.map`,
`Perm.filter`) to return one.  It is a permutation because `DtBagN`, the hypothesis about `pd.to_datetime`, speaks of
reorderings, and C11's statement does. -/
structure SameBagN (a b : NArr) : Prop where
  kind : a.kind = b.kind
  perm : a.elems.Perm b.elems

theorem SameBagN.symm {a b : NArr} (h : SameBagN a b) : SameBagN b a := ⟨h.kind.symm, h.perm.symm⟩
theorem SameBagN.mask {a b : NArr} (h : SameBagN a b) : SameBagN a.mask b.mask := ⟨h.kind, h.perm.filter _⟩
theorem SameBagN.mem {a b : NArr} (h : SameBagN a b) (x : NElem) : x ∈ a.elems ↔ x ∈ b.elems := h.perm.mem_iff
theorem SameBagN.isEmpty {a b : NArr} (h : SameBagN a b) : a.isEmpty = b.isEmpty := isEmpty_congr_mem h.mem

/-! A relation test reads the values that are not missing: which of them occur (`isEmpty`, `all`, `any`, `oks`), and the
first exception of one conversion.  Two arrays that agree on both get the same answer, the exception included; reordering
(below) and repetition (`NumpyRepeat`) are the two cases. -/

section
variable {a b : NArr} (hm : ∀ x, x ∈ a.mask.elems ↔ x ∈ b.mask.elems)
include hm

theorem handleNulls_congr {f : NArr → R Bool} (hf : f a.mask = f b.mask) : handleNulls f a = handleNulls f b := by
  unfold handleNulls notEmpty
  rw [show a.mask.isEmpty = b.mask.isEmpty from isEmpty_congr_mem hm, hf]

theorem handleNulls_all_congr (p : NElem → Bool) :
    handleNulls (fun a => .ok (a.elems.all p)) a = handleNulls (fun a => .ok (a.elems.all p)) b :=
  handleNulls_congr hm (congrArg Except.ok (all_congr_mem hm p))

theorem stringIsFloat_congr (hfr : firstRaise (a.mask.elems.map (·.fl)) = firstRaise (b.mask.elems.map (·.fl))) :
    stringIsFloat a = stringIsFloat b :=
  handleNulls_congr hm (by simp only [hfr, any_congr_mem hm, all_congr_mem (oks_congr_mem (map_congr_mem hm (·.fl)))])

theorem stringIsBoolean_congr (hfr : firstRaise (a.mask.elems.map (·.lower)) = firstRaise (b.mask.elems.map (·.lower))) :
    stringIsBoolean a = stringIsBoolean b := by
  have hk := oks_congr_mem (map_congr_mem hm (·.lower))
  simp only [stringIsBoolean, hfr, isEmpty_congr_mem hk, all_congr_mem hk]

theorem stringIsComplex_congr (hfr : firstRaise (a.mask.elems.map (·.cx)) = firstRaise (b.mask.elems.map (·.cx)))
    (hfl : stringIsFloat a = stringIsFloat b) : stringIsComplex a = stringIsComplex b := by
  simp only [stringIsComplex, hfr, hfl, any_congr_mem hm]

end

def AccBagN (P : NArr → Prop) (g : NArr → R Bool) : Prop := ∀ a b, SameBagN a b → P a → (g a = .ok true → g b = .ok true)

theorem SameBagN.firstRaise_none {α : Type} {a b : NArr} (h : SameBagN a b) (f : NElem → Outcome α) :
    firstRaise (a.mask.elems.map f) = none ↔ firstRaise (b.mask.elems.map f) = none := by
  simp only [firstRaise_none_iff, map_congr_mem h.mask.mem f]

-- which exception comes first depends on the order; that there is none does not, and an accepting test met none
theorem SameBagN.firstRaise_eq {α : Type} {a b : NArr} (h : SameBagN a b) {f : NElem → Outcome α}
    (hn : firstRaise (a.mask.elems.map f) = none) : firstRaise (a.mask.elems.map f) = firstRaise (b.mask.elems.map f) :=
  hn.trans ((h.firstRaise_none f).mp hn).symm

/-- every float conversion that raises raises a class `option_coercion_evaluator` catches -/
def FlCaught (a : NArr) : Prop := ∀ x ∈ a.elems, ∀ c, x.fl = .raises c → caughtByEvaluator c = true

theorem FlCaught.perm {a b : NArr} (h : SameBagN a b) (hf : FlCaught a) : FlCaught b :=
  fun x hx c hc => hf x ((h.mem x).mpr hx) c hc

-- String -> Complex needs String -> Float's `ok false` as well: under `FlCaught` a conversion that raises gives it in any order
theorem stringIsFloat_bag {a b : NArr} (h : SameBagN a b) (hf : FlCaught a) : stringIsFloat a = stringIsFloat b := by
  have hm := h.mask
  have e : (firstRaise (a.mask.elems.map (·.fl))).isNone = (firstRaise (b.mask.elems.map (·.fl))).isNone :=
    Bool.eq_iff_iff.mpr (by simpa only [Option.isNone_iff_eq_none] using h.firstRaise_none (·.fl))
  rw [stringIsFloat_eq (fun x hx => hf x (mem_mask.mp hx).1), stringIsFloat_eq (fun x hx => hf.perm h x (mem_mask.mp hx).1),
    hm.isEmpty, any_congr_mem hm.mem, all_congr_mem (oks_congr_mem (map_congr_mem hm.mem (·.fl))), e]

/-- `pd.to_datetime` succeeds on an array iff it succeeds on any reordering of it, and the results hold the same bag -/
structure DtBagN (o : NpOracle) : Prop where
  masked : ∀ a b, SameBagN a b → ∀ r, o.dtMasked a = .ok r → ∃ r', o.dtMasked b = .ok r' ∧ SameBagN r r'
  whole : ∀ a b, SameBagN a b → ∀ r, o.dtWhole a = .ok r → ∃ r', o.dtWhole b = .ok r' ∧ SameBagN r r'

theorem guard_accBagN (o : NpOracle) (hdt : DtBagN o) (src dst : Ty) (g : NArr → R Bool) (hg : guard o src dst = some g) :
    AccBagN FlCaught g := by
  obtain ⟨_, r⟩ := Row.of_guard hg
  intro a b h hf ha
  have hm := h.mask.mem
  cases r with
  | objectBoolean | complexFloat | floatInteger => exact (handleNulls_all_congr hm _).symm.trans ha
  | stringBoolean => exact stringIsBoolean_congr hm (h.firstRaise_eq (accept_firstRaise ha).1) ▸ ha
  | stringComplex =>
    exact stringIsComplex_congr hm (h.firstRaise_eq (accept_firstRaise ha).1) (stringIsFloat_bag h hf) ▸ ha
  | stringDatetime =>
    have ⟨he, h2⟩ := handleNulls_ok_true.mp ha
    refine handleNulls_ok_true.mpr ⟨h.mask.isEmpty ▸ he, ?_⟩
    cases hd : o.dtMasked a.mask with
    | raises c =>
      simp only [hd] at h2
      split at h2 <;> cases h2
    | ok r =>
      obtain ⟨r', hr', hb⟩ := hdt.masked _ _ h.mask r hd
      simp only [hd, hr', ← any_congr_mem hb.mem] at h2 ⊢
      exact h2
  | stringFloat => exact stringIsFloat_bag h hf ▸ ha

def EquiBagN (t : NArr → R NArr) : Prop := ∀ a b, SameBagN a b → ∀ d, t a = .ok d → ∃ d', t b = .ok d' ∧ SameBagN d d'

theorem xform_equiBagN (o : NpOracle) (hdt : DtBagN o) (src dst : Ty) (t : NArr → R NArr) (ht : xform o src dst = some t) :
    EquiBagN t := by
  obtain ⟨_, r⟩ := Row.of_xform ht
  intro a b h d hd
  cases r with
  | objectBoolean =>
    cases hd
    exact ⟨_, rfl, h⟩
  | stringBoolean =>
    obtain ⟨h1, h2, rfl⟩ := stringToBoolean_ok.mp hd
    exact ⟨_, stringToBoolean_ok.mpr ⟨(h.firstRaise_none _).mp h1, h.mask.isEmpty ▸ h2, rfl⟩, rfl, h.perm.map _⟩
  | stringComplex =>
    obtain ⟨h1, rfl⟩ := stringToComplex_ok.mp hd
    exact ⟨_, stringToComplex_ok.mpr ⟨(h.firstRaise_none _).mp h1, rfl⟩, rfl, h.perm.map _⟩
  | stringDatetime =>
    obtain ⟨r', hr', hb⟩ := hdt.whole a b h d (stringToDatetime_ok.mp hd)
    exact ⟨r', stringToDatetime_ok.mpr hr', hb⟩
  | stringFloat =>
    obtain ⟨h1, rfl⟩ := stringToFloat_ok.mp hd
    exact ⟨_, stringToFloat_ok.mpr ⟨(h.firstRaise_none _).mp h1, rfl⟩, rfl, h.perm.map _⟩
  | complexFloat =>
    cases hd
    exact ⟨_, rfl, rfl, h.perm.map _⟩
  | floatInteger =>
    obtain ⟨h1, rfl⟩ := floatToInteger_ok.mp hd
    exact ⟨_, floatToInteger_ok.mpr ⟨h.mask.isEmpty ▸ h1, rfl⟩, rfl, h.mask.perm.map _⟩

/-- what the walk carries for C11: the element facts, under which membership reads the bag only (`containsB_congr`: `_is_string`'s
prefix test), and `FlCaught`, since String -> Complex asks String -> Float's verdict (`stringIsFloat_bag`).  The payload facts
`payWFB` and the rest of `goodB` serve L1–L3 only. -/
def InvN (a : NArr) : Prop := (∀ x ∈ a.elems, elemWFB a.kind x = true) ∧ FlCaught a

theorem InvN.elem {a : NArr} (h : InvN a) : ∀ x ∈ a.elems, elemWFB a.kind x = true := h.1
theorem InvN.flCaught {a : NArr} (h : InvN a) : FlCaught a := h.2
theorem InvN.elemWF {a : NArr} (h : InvN a) : ∀ x ∈ a.elems, ElemWF a.kind x := fun x hx => elemWFB_sound (h.elem x hx)

theorem flCaught_ok {x : NElem} {v : FloatV} (h : x.fl = .ok v) : ∀ c, x.fl = .raises c → caughtByEvaluator c = true := by
  intro c hc; rw [h] at hc; cases hc

theorem invN_of_made {k : NpKind} {l : List NElem} (h : ∀ y ∈ l, Made k y) : InvN ⟨k, l⟩ :=
  ⟨fun y hy => (h y hy).wf.1, fun y hy => let ⟨_, hv⟩ := (h y hy).fl; flCaught_ok hv⟩

/-- every transformer of the table keeps the invariant (`hdi`: so do the arrays `pd.to_datetime` returns) -/
theorem xform_invN {o : NpOracle} (hdi : ∀ a r, o.dtWhole a = .ok r → InvN r) {s d : Ty} {t : NArr → R NArr}
    (ht : xform o s d = some t) {a a' : NArr} (hI : InvN a) (hd : t a = .ok a') : InvN a' := by
  obtain ⟨_, r⟩ := Row.of_xform ht
  cases r with
  | objectBoolean => cases hd; exact hI
  | stringBoolean =>
    -- String -> Boolean keeps the missing values as they are
    obtain ⟨_, _, rfl⟩ := stringToBoolean_ok.mp hd
    refine ⟨List.forall_mem_map.mpr fun x hx => ?elem, List.forall_mem_map.mpr fun x hx => ?flCaught⟩
    case elem =>
      rcases s2b_cases x with hm | ⟨_, e⟩
      · exact hm.wf.1
      · rw [e]; exact (wf_to_object (hI.elem x hx)).1
    case flCaught =>
      rcases s2b_cases x with hm | ⟨_, e⟩
      · obtain ⟨_, hv⟩ := hm.fl; exact flCaught_ok hv
      · rw [e]; exact hI.flCaught x hx
  | stringComplex =>
    obtain ⟨_, rfl⟩ := stringToComplex_ok.mp hd
    exact invN_of_made (List.forall_mem_map.mpr fun x _ => s2c_made x)
  | stringDatetime => exact hdi a a' (stringToDatetime_ok.mp hd)
  | stringFloat =>
    obtain ⟨_, rfl⟩ := stringToFloat_ok.mp hd
    exact invN_of_made (List.forall_mem_map.mpr fun x _ => s2f_made x)
  | complexFloat =>
    rw [complexToFloat_eq] at hd; cases hd
    exact invN_of_made (List.forall_mem_map.mpr fun x _ => c2f_made x)
  | floatInteger =>
    obtain ⟨_, rfl⟩ := floatToInteger_ok.mp hd
    exact invN_of_made (List.forall_mem_map.mpr fun x _ => f2i_made x)

/-- **C11 for `infer` on the numpy model**, for every typeset built from the relation table (`hdi`: the arrays
`pd.to_datetime` returns satisfy `InvN`) -/
theorem infer_bag_np (o : NpOracle) (hdt : DtBagN o) (hdi : ∀ a r, o.dtWhole a = .ok r → InvN r) (b : Built Ty)
    (f : Nat) (n : Ty) (a a' : NArr) (h : SameBagN a a') (hI : InvN a) :
    (ptraverse (numpyTS o b).succ f n a).2 = (ptraverse (numpyTS o b).succ f n a').2 ∧
    SameBagN (ptraverse (numpyTS o b).succ f n a).1 (ptraverse (numpyTS o b).succ f n a').1 := by
  refine ((backend o).ptraverse_rel _ b (fun x y => SameBagN x y ∧ InvN x) (hc := ?hc) (hg := ?hg) (hx := ?hx) f n a a'
    ⟨h, hI⟩).imp_right And.left
  case hc => exact fun t x y ⟨bag, inv⟩ => containsB_congr t bag.kind bag.mem inv.elemWF
  case hg =>
    exact fun s t g hg x y ⟨bag, inv⟩ => ⟨guard_accBagN o hdt s t g hg x y bag inv.flCaught,
      guard_accBagN o hdt s t g hg y x bag.symm (inv.flCaught.perm bag)⟩
  case hx =>
    intro s t u hu x y ⟨bag, inv⟩
    refine ⟨fun d hd => ?_, fun d' hd' => (xform_equiBagN o hdt s t u hu y x bag.symm d' hd').imp fun _ => And.left⟩
    obtain ⟨d', hd', bag'⟩ := xform_equiBagN o hdt s t u hu x y bag d hd
    exact ⟨d', hd', bag', xform_invN hdi hu inv hd⟩

end V.Np
