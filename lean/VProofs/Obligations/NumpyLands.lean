/-
  L3 and the closure of `Good`.  The target of every relation is a child of Generic other than Object, so by L2 and L1 the
  array an accepting relation returns is neither an Object nor a String (`Lands.of_genericChild`; of what `pd.to_datetime`
  returns, `oracleB` says so itself): no relation but the two total numeric ones leaves it, it satisfies `Good` again
  (`Lands.good`), and nothing is assumed about intermediate arrays.  That the transformer returns at all is assumed (`noRaiseB`).
-/
import VProofs.Obligations.NumpyLocal
namespace V.Np
open V V.Gen

/-- an array no relation but the two numeric ones leaves -/
def Terminal (a : NArr) : Prop := stringContains a = false ∧ objectContains a = false

/-- not an Object by L2 at Generic; nor a String, which would be an Object (L1) -/
theorem terminal_of_classify {a : NArr} (hw : ∀ x ∈ a.elems, ElemWF a.kind x ∧ PayWF a.kind x) (h : classify a ≠ .Object) :
    Terminal a :=
  have ho : objectContains a = false :=
    Bool.eq_false_iff.mpr fun hc => h (classify_of_contains a (fun x hx => (hw x hx).1) .Object (by decide) hc)
  ⟨Bool.eq_false_iff.mpr fun hs => Bool.eq_false_iff.mp ho (string_object hw hs), ho⟩

theorem Row.numeric_of_terminal {o : NpOracle} {s d : Ty} {g : NArr → R Bool} {t : NArr → R NArr} {a : NArr}
    (r : Row o s d g t) (h : Terminal a) (hc : containsB s a = true) :
    (g = complexIsFloat ∧ t = complexToFloat) ∨ (g = floatIsInteger ∧ t = floatToInteger) := by
  obtain ⟨notString, notObject⟩ := h
  cases r with
  | objectBoolean => exact nomatch notObject.symm.trans hc
  | stringBoolean | stringComplex | stringDatetime | stringFloat => exact nomatch notString.symm.trans hc
  | complexFloat => exact .inl ⟨rfl, rfl⟩
  | floatInteger => exact .inr ⟨rfl, rfl⟩

theorem noRaiseB_iff {o : NpOracle} {a : NArr} : noRaiseB o a = true ↔
    ∀ {s d g t}, Row o s d g t → containsB s a = true → g a = .ok true → ∃ a', t a = .ok a' := by
  simp only [noRaiseB, List.all_eq_true]
  constructor
  · intro h s d g t r hc hg
    have := h (s, d) r.mem
    simp only [hc, r.guard_eq, r.xform_eq, hg, Bool.not_true, Bool.false_or] at this
    cases ht : t a with
    | ok a' => exact ⟨a', rfl⟩
    | error e => rw [ht] at this; cases this
  · intro h ⟨s, d⟩ hm
    obtain ⟨g, t, r⟩ := Row.of_mem o hm
    simp only [r.guard_eq, r.xform_eq]
    cases hc : containsB s a with
    | false => rfl
    | true =>
      cases hg : g a with
      | error e => rfl
      | ok b => cases b with
        | false => rfl
        | true =>
          obtain ⟨a', ha'⟩ := h r hc hg
          rw [ha']
          rfl

/-- an element a transformer makes for an array of kind `k` -/
inductive Made : NpKind → NElem → Prop
  | float (v : FloatV) : Made .f (.ofFloat v)
  | complex (re im : FloatV) : Made .c (.ofComplex re im)
  | int (z : Int) : Made .i (.ofInt z)
  | bool (b : Bool) : Made .O (.ofBool b)
  | nan : Made .O (.ofFloat .nan)

theorem ofFloat_isStr (v : FloatV) : (NElem.ofFloat v).isStr = false := rfl
theorem ofComplex_isStr (re im : FloatV) : (NElem.ofComplex re im).isStr = false := rfl
theorem ofInt_isStr (z : Int) : (NElem.ofInt z).isStr = false := rfl

theorem Made.wf {k : NpKind} {y : NElem} (h : Made k y) : elemWFB k y = true ∧ payWFB k y = true := by
  cases h with
  | float v => exact ⟨rfl, by simp [payWFB, NElem.ofFloat, NElem.blank]⟩
  | complex re im => exact ⟨rfl, by simp [payWFB, NElem.ofComplex, NElem.blank]⟩
  | int z => exact ⟨rfl, rfl⟩
  | bool b => cases b <;> exact ⟨rfl, rfl⟩
  | nan => exact ⟨rfl, rfl⟩
theorem Made.fl {k : NpKind} {y : NElem} (h : Made k y) : ∃ v, y.fl = .ok v := by cases h <;> exact ⟨_, rfl⟩

theorem wf_to_object {k : NpKind} {x : NElem} (h : elemWFB k x = true) : elemWFB .O x = true ∧ payWFB .O x = true := by
  refine ⟨?_, rfl⟩
  -- only the first two conjuncts of `elemWFB` mention the kind, and they hold of an object array
  simp only [elemWFB, Bool.and_eq_true, and_assoc] at h ⊢
  exact ⟨by simp, by simp, h.2.2⟩

/-- what `stringToFloat` makes of one element (`stringToFloat_eq`); likewise `s2c`, `c2f`, `f2i`, `s2b` -/
def s2f (x : NElem) : NElem :=
  if x.null then NElem.ofFloat .nan else match x.fl with | .ok v => NElem.ofFloat v | .raises _ => NElem.ofFloat .nan
def s2c (x : NElem) : NElem :=
  if x.null then NElem.ofComplex .nan (.fin 0 0)
  else match x.cx with | .ok p => NElem.ofComplex p.1 p.2 | .raises _ => NElem.ofComplex .nan (.fin 0 0)
def c2f (x : NElem) : NElem := match x.cx with | .ok (re, _) => NElem.ofFloat re | .raises _ => NElem.ofFloat .nan
def f2i (x : NElem) : NElem := match x.fl with | .ok v => NElem.ofInt v.toInt | .raises _ => NElem.ofInt 0
def s2b (x : NElem) : NElem :=
  if x.null then x else match x.lower with | .ok (some (_, b)) => NElem.ofBool b | _ => NElem.ofFloat .nan

theorem s2f_made (x : NElem) : Made .f (s2f x) := by
  unfold s2f; split
  · exact .float _
  · split <;> exact .float _
theorem s2c_made (x : NElem) : Made .c (s2c x) := by
  unfold s2c; split
  · exact .complex _ _
  · split <;> exact .complex _ _
theorem c2f_made (x : NElem) : Made .f (c2f x) := by unfold c2f; split <;> exact .float _
theorem f2i_made (x : NElem) : Made .i (f2i x) := by unfold f2i; split <;> exact .int _
theorem s2b_cases (x : NElem) : Made .O (s2b x) ∨ (x.null = true ∧ s2b x = x) := by
  cases hn : x.null with
  | true => exact .inr ⟨rfl, by simp only [s2b, hn, if_true]⟩
  | false =>
    left
    simp only [s2b, hn, Bool.false_eq_true, if_false]
    split
    · exact .bool _
    · exact .nan

theorem stringToFloat_eq (a : NArr) : stringToFloat a =
    match firstRaise (a.mask.elems.map (·.fl)) with
    | some cls => .error (escape cls)
    | none => .ok { kind := .f, elems := a.elems.map s2f } := rfl

theorem stringToComplex_eq (a : NArr) : stringToComplex a =
    match firstRaise (a.mask.elems.map (·.cx)) with
    | some cls => .error (escape cls)
    | none => .ok { kind := .c, elems := a.elems.map s2c } := rfl

theorem stringToBoolean_eq (a : NArr) : stringToBoolean a =
    match firstRaise (a.mask.elems.map (·.lower)) with
    | some cls => .error (escape cls)
    | none => if a.mask.isEmpty then .error (.raised "ValueError") else .ok { kind := .O, elems := a.elems.map s2b } := rfl

theorem complexToFloat_eq (a : NArr) : complexToFloat a = .ok { kind := .f, elems := a.elems.map c2f } := rfl

theorem floatToInteger_eq (a : NArr) : floatToInteger a =
    if a.mask.isEmpty then .error (.raised "NotAnArray") else .ok { kind := .i, elems := a.mask.elems.map f2i } := rfl

theorem ite_error_ok {b : Bool} {e : Err} {r v : NArr} : (if b then (.error e : R NArr) else .ok r) = .ok v ↔ b = false ∧ r = v := by
  cases b <;> simp

theorem stringToFloat_ok {a a' : NArr} : stringToFloat a = .ok a' ↔
    firstRaise (a.mask.elems.map (·.fl)) = none ∧ { kind := .f, elems := a.elems.map s2f } = a' := by
  rw [stringToFloat_eq]
  exact ok_firstRaise.trans (by rw [Except.ok.injEq])

theorem stringToComplex_ok {a a' : NArr} : stringToComplex a = .ok a' ↔
    firstRaise (a.mask.elems.map (·.cx)) = none ∧ { kind := .c, elems := a.elems.map s2c } = a' := by
  rw [stringToComplex_eq]
  exact ok_firstRaise.trans (by rw [Except.ok.injEq])

theorem stringToBoolean_ok {a a' : NArr} : stringToBoolean a = .ok a' ↔
    firstRaise (a.mask.elems.map (·.lower)) = none ∧ a.mask.isEmpty = false ∧ { kind := .O, elems := a.elems.map s2b } = a' := by
  rw [stringToBoolean_eq]
  exact ok_firstRaise.trans (by rw [ite_error_ok])

theorem floatToInteger_ok {a a' : NArr} : floatToInteger a = .ok a' ↔
    a.mask.isEmpty = false ∧ { kind := .i, elems := a.mask.elems.map f2i } = a' := by
  rw [floatToInteger_eq, ite_error_ok]

theorem stringToDatetime_ok {o : NpOracle} {a a' : NArr} : stringToDatetime o a = .ok a' ↔ o.dtWhole a = .ok a' := by
  unfold stringToDatetime
  cases o.dtWhole a <;> simp

theorem good_intro (o : NpOracle) (a : NArr) (hwf : ∀ x ∈ a.elems, elemWFB a.kind x = true ∧ payWFB a.kind x = true)
    (h : Terminal a) : Good o a := by
  refine good_iff.mpr { wf := hwf, noRaise := noRaiseB_iff.mpr fun r hc hg => ?_, oracle := by simp [oracleB, h.1] }
  -- the two numeric transformers do not raise after their test accepted
  rcases r.numeric_of_terminal h hc with ⟨rfl, rfl⟩ | ⟨rfl, rfl⟩
  · exact ⟨_, rfl⟩
  · exact ⟨_, floatToInteger_ok.mpr ⟨(handleNulls_ok_true.mp hg).1, rfl⟩⟩

/-- what an accepting relation into `d` establishes about the array it returns -/
structure Lands (d : Ty) (a' : NArr) : Prop where
  contains : containsB d a' = true
  wf : ∀ x ∈ a'.elems, elemWFB a'.kind x = true ∧ payWFB a'.kind x = true
  terminal : Terminal a'

theorem Lands.good {d : Ty} {a' : NArr} (o : NpOracle) (h : Lands d a') : Good o a' := good_intro o a' h.wf h.terminal

theorem Lands.of_genericChild {d : Ty} {a' : NArr} (hd : d ∈ genericChildrenNp) (hne : d ≠ .Object) (hc : containsB d a' = true)
    (hw : ∀ x ∈ a'.elems, elemWFB a'.kind x = true ∧ payWFB a'.kind x = true) : Lands d a' :=
  have hw' := wf_sound hw
  { contains := hc, wf := hw
    terminal := terminal_of_classify hw' (classify_of_contains a' (fun x hx => (hw' x hx).1) d hd hc ▸ hne) }

theorem good_float_out (o : NpOracle) (l : List FloatV) : Good o { kind := .f, elems := l.map NElem.ofFloat } :=
  have hw := List.forall_mem_map.mpr fun v _ => (Made.float v).wf
  good_intro o _ hw (terminal_of_classify (wf_sound hw) nofun)

theorem floatContains_of_value {l : List NElem} {y : NElem} (hy : y ∈ l) (hn : y.null = false) :
    floatContains ⟨.f, l⟩ = true :=
  handleNullsB_notEmptyB_iff.mpr ⟨isEmpty_false_iff.mpr ⟨y, mem_mask.mpr ⟨hy, hn⟩⟩, rfl⟩

theorem integerContains_of_value {l : List NElem} {y : NElem} (hy : y ∈ l) (hn : y.null = false) :
    integerContains ⟨.i, l⟩ = true := by
  have hne : (⟨.i, l⟩ : NArr).mask.isEmpty = false := isEmpty_false_iff.mpr ⟨y, mem_mask.mpr ⟨hy, hn⟩⟩
  exact handleNullsB_iff.mpr ⟨hne, by simp only [hne, mask_kind]; rfl⟩

theorem lands_string_float {a a' : NArr} (hg : stringIsFloat a = .ok true) (ht : stringToFloat a = .ok a') :
    Lands .Float a' := by
  cases (stringToFloat_ok.mp ht).2
  refine .of_genericChild (by decide) nofun ?_ (List.forall_mem_map.mpr fun x _ => (s2f_made x).wf)
  -- the parsed value that is not NaN is a value of the output that is not missing
  obtain ⟨x, hx, v, hxv, hnv⟩ := (stringIsFloat_elem hg).2
  have hxm := mem_mask.mp hx
  have hyv : s2f x = NElem.ofFloat v := by simp [s2f, hxm.2, hxv]
  exact floatContains_of_value (List.mem_map.mpr ⟨x, hxm.1, rfl⟩) (by rw [hyv]; exact hnv)

theorem lands_string_complex {a a' : NArr} (hc : stringContains a = true) (ht : stringToComplex a = .ok a') :
    Lands .Complex a' := by
  cases (stringToComplex_ok.mp ht).2
  refine .of_genericChild (by decide) nofun ?_ (List.forall_mem_map.mpr fun x _ => (s2c_made x).wf)
  obtain ⟨x, hx⟩ := isEmpty_false_iff.mp (notEmptyB_iff.mp hc).1
  exact complexContains_iff.mpr ⟨isEmpty_false_iff.mpr ⟨s2c x, List.mem_map.mpr ⟨x, hx, rfl⟩⟩, rfl⟩

theorem lands_complex_float {o : NpOracle} {a a' : NArr} (hG : Good o a) (hc : complexContains a = true)
    (hg : complexIsFloat a = .ok true) (ht : complexToFloat a = .ok a') : Lands .Float a' := by
  rw [complexToFloat_eq] at ht
  cases ht
  refine .of_genericChild (by decide) nofun ?_ (List.forall_mem_map.mpr fun x _ => (c2f_made x).wf)
  -- a value of a complex array that is not missing has a real part that is not NaN
  have hk : a.kind = .c := (kind_excl a.kind).complex (complexContains_iff.mp hc).2
  obtain ⟨x, hx⟩ := isEmpty_false_iff.mp (handleNulls_ok_true.mp hg).1
  have hxm := mem_mask.mp hx
  obtain ⟨re, im, hcx, hnull⟩ := (good_wf hG x hxm.1).2.complex hk
  have hre : re.isNan = false := (Bool.or_eq_false_iff.mp (hnull.symm.trans hxm.2)).1
  have hyv : c2f x = NElem.ofFloat re := by simp [c2f, hcx]
  exact floatContains_of_value (List.mem_map.mpr ⟨x, hxm.1, rfl⟩) (by rw [hyv]; exact hre)

theorem lands_float_integer {a a' : NArr} (ht : floatToInteger a = .ok a') : Lands .Integer a' := by
  obtain ⟨hme, rfl⟩ := floatToInteger_ok.mp ht
  refine .of_genericChild (by decide) nofun ?_ (List.forall_mem_map.mpr fun x _ => (f2i_made x).wf)
  obtain ⟨x, hx⟩ := isEmpty_false_iff.mp hme
  exact integerContains_of_value (List.mem_map.mpr ⟨x, hx, rfl⟩) (by unfold f2i; split <;> rfl)

theorem lands_string_boolean {o : NpOracle} {a a' : NArr} (hG : Good o a) (hg : stringIsBoolean a = .ok true)
    (ht : stringToBoolean a = .ok a') : Lands .Boolean a' := by
  cases (stringToBoolean_ok.mp ht).2.2
  have ⟨hme, hkeys⟩ := stringIsBoolean_elem hg
  have hval : ∀ x ∈ a.mask.elems, ∃ b, s2b x = .ofBool b := fun x hx => by
    obtain ⟨⟨i, b⟩, hp⟩ := hkeys x hx
    exact ⟨b, by simp only [s2b, (mem_mask.mp hx).2, hp, Bool.false_eq_true, if_false]⟩
  refine .of_genericChild (by decide) nofun (handleNullsB_notEmptyB_iff.mpr ⟨?_, List.all_eq_true.mpr fun y hy => ?_⟩)
    (List.forall_mem_map.mpr fun z hz => ?_)
  · obtain ⟨x, hx⟩ := isEmpty_false_iff.mp hme
    obtain ⟨b, hb⟩ := hval x hx
    exact isEmpty_false_iff.mpr ⟨.ofBool b, mem_mask.mpr ⟨hb ▸ List.mem_map_of_mem (mem_mask.mp hx).1, rfl⟩⟩
  · -- a value of the output comes from a value of the input: a missing value stays as it is
    obtain ⟨hy, hyn⟩ := mem_mask.mp hy
    obtain ⟨x, hx, rfl⟩ := List.mem_map.mp hy
    cases hn : x.null with
    | true => simp [s2b, hn] at hyn
    | false =>
      obtain ⟨b, hb⟩ := hval x (mem_mask.mpr ⟨hx, hn⟩)
      rw [hb]
      rfl
  · rcases s2b_cases z with hm | ⟨_, e⟩
    · exact hm.wf
    · rw [e]; exact wf_to_object ((good_iff.mp hG).wf z hz).1

/-- String -> DateTime: the oracle's facts, checked on every input by `oracleB` -/
theorem lands_string_datetime {o : NpOracle} {a a' : NArr} (hG : Good o a) (hc : stringContains a = true)
    (hg : stringIsDatetime o a = .ok true) (ht : stringToDatetime o a = .ok a') : Lands .DateTime a' := by
  obtain ⟨contains, out⟩ := (oracleB_accepted (good_iff.mp hG).oracle hc hg).out a' (stringToDatetime_ok.mp ht)
  simp only [dtOutOkB, Bool.and_eq_true, List.all_eq_true, Bool.not_eq_true'] at out
  obtain ⟨⟨wf, notString⟩, notObject⟩ := out
  exact { contains, wf, terminal := ⟨notString, notObject⟩ }

theorem lands_np {o : NpOracle} {s d : Ty} {g : NArr → R Bool} {t : NArr → R NArr} (r : Row o s d g t) {a a' : NArr}
    (hG : Good o a) (hc : containsB s a = true) (hg : g a = .ok true) (ht : t a = .ok a') : Lands d a' := by
  cases r with
  | objectBoolean => exact absurd hg (object_never_boolean o a hG hc)
  | stringBoolean => exact lands_string_boolean hG hg ht
  | stringComplex => exact lands_string_complex hc ht
  | stringDatetime => exact lands_string_datetime hG hc hg ht
  | stringFloat => exact lands_string_float hg ht
  | complexFloat => exact lands_complex_float hG hc hg ht
  | floatInteger => exact lands_float_integer ht

/-- L3 with closure, for one row; that the transformer returns is `noRaiseB` -/
theorem Row.step {o : NpOracle} {s d : Ty} {g : NArr → R Bool} {t : NArr → R NArr} (r : Row o s d g t) {a : NArr}
    (hG : Good o a) (hc : containsB s a = true) (hg : g a = .ok true) : ∃ a', t a = .ok a' ∧ Lands d a' :=
  have ⟨a', ht⟩ := noRaiseB_iff.mp (good_iff.mp hG).noRaise r hc hg
  ⟨a', ht, lands_np r hG hc hg ht⟩

/-- `lands_np` in the form the checks register; the proofs use `Row.step` -/
theorem lands_closed_np (o : NpOracle) (src dst : Ty) (g : NArr → R Bool) (t : NArr → R NArr)
    (hgd : guard o src dst = some g) (htd : xform o src dst = some t) (a a' : NArr) (hG : Good o a)
    (hc : containsB src a = true) (hg : g a = .ok true) (ht : t a = .ok a') :
    containsB dst a' = true ∧ Good o a' :=
  have h := lands_np (Row.of hgd htd) hG hc hg ht
  ⟨h.contains, h.good o⟩

end V.Np
