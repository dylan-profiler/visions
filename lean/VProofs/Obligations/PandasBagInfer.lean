/-
  L4 for the relations (C11 for `infer`).  Each way the model builds a test or a transformer keeps `AccBag` / `EquiBag`,
  so the relation table is one list of compositions (`table_bag`).  `AccBag` speaks of acceptance only, which is what
  the traversal reads: which exception escapes from a test that raises can depend on the order of the rows, and that is
  C09's subject.
-/
import VProofs.Lemmas.PandasRel
import VProofs.Lemmas.PandasTS
import VProofs.Obligations.PandasBag
namespace V.Pd
open V V.Gen

def AccBag (g : Column → R Bool) : Prop := ∀ c c', SameBag c c' → (g c = .ok true → g c' = .ok true)

theorem acc_ok {q : Column → Bool} (hq : ∀ c c', SameBag c c' → q c = q c') : AccBag (fun c => .ok (q c)) := by
  intro c c' h hc
  show Except.ok (q c') = _
  rw [← hq c c' h]; exact hc

theorem acc_ok_all (p : Cell → Bool) : AccBag (fun c => .ok (c.cells.all p)) :=
  acc_ok (fun _ _ h => h.perm.all_eq)

theorem acc_ite {b : Column → Bool} {r s : Column → R Bool} (hb : ∀ c c', SameBag c c' → b c = b c')
    (hr : AccBag r) (hs : AccBag s) : AccBag (fun c => if b c then r c else s c) := by
  intro c c' h
  show (if b c = true then r c else s c) = _ → (if b c' = true then r c' else s c') = _
  rw [hb c c' h]
  split
  · exact hr c c' h
  · exact hs c c' h

theorem acc_handleNulls {f : Column → R Bool} (hf : AccBag f) : AccBag (handleNulls f) :=
  acc_ite (fun _ _ h => h.hasnans)
    (acc_ite (fun _ _ h => h.dropna.sameCells.empty) (fun _ _ _ h => h) fun _ _ h => hf _ _ h.dropna) hf

/-- a test built on `option_coercion_evaluator` / `coercion_test` accepts iff no element raised and the final verdict
is true -/
theorem match_acc {α : Type} {l : List (Outcome α)} {k : String → R Bool} {r : R Bool}
    (hk : ∀ cls, k cls ≠ .ok true) :
    (match firstRaise l with | some cls => k cls | _ => r) = .ok true ↔ firstRaise l = none ∧ r = .ok true :=
  match_firstRaise hk

/-- `p` (the element conversion) may read the dtype, and the verdict `r` may rely on every conversion having
succeeded: String → Float needs both, String → Complex the second -/
theorem acc_firstRaise_of {α : Type} {p : Column → Cell → Outcome α} {k : String → R Bool} {r : Column → R Bool}
    (hk : ∀ cls, k cls ≠ .ok true) (hp : ∀ c c', SameBag c c' → p c' = p c)
    (hr : ∀ c c', SameBag c c' → firstRaise (c.cells.map (p c)) = none → firstRaise (c'.cells.map (p c)) = none →
      r c = .ok true → r c' = .ok true) :
    AccBag (fun c => match firstRaise (c.cells.map (p c)) with | some cls => k cls | _ => r c) := by
  intro c c' h hc
  obtain ⟨h1, h2⟩ := (match_acc hk).mp hc
  have h1' := firstRaise_map_perm (p c) h.perm h1
  exact (match_acc hk).mpr ⟨hp c c' h ▸ h1', hr c c' h h1 h1' h2⟩

theorem acc_firstRaise {α : Type} {p : Cell → Outcome α} {b : String → Bool} {e : String → Err} {r : Column → R Bool}
    (hr : AccBag r) :
    AccBag (fun c => match firstRaise (c.cells.map p) with
      | some cls => if b cls then .ok false else .error (e cls) | _ => r c) :=
  acc_firstRaise_of (fun _ => ite_ne_ok_true _ _) (fun _ _ _ => rfl) (fun c c' h _ _ => hr c c' h)

theorem acc_stringIsGeometry : AccBag stringIsGeometry := by
  apply acc_handleNulls
  intro c c' h hc
  dsimp only at hc ⊢
  rw [geomGo_iff] at hc ⊢
  intro x hx; exact hc x (h.perm.mem_iff.mpr hx)

theorem leadingZerosOk_bag (g : Cell → FloatV) {l l' : List Cell} (h : l.Perm l') :
    leadingZerosOk l (l.map g) = leadingZerosOk l' (l'.map g) := by
  have e : ∀ m : List Cell, m.zip (m.map g) = m.map fun x => (x, g x) := fun m => by
    simpa using List.zip_map' (f := id) (g := g) (l := m)
  simp only [leadingZerosOk, e]
  have hp : ((l.map (fun x => (x, g x))).filter (fun p => !p.2.isNan)).Perm
      ((l'.map (fun x => (x, g x))).filter (fun p => !p.2.isNan)) := (h.map _).filter _
  rw [(h.map g).any_eq, hp.isEmpty_eq, hp.any_eq]

theorem acc_stringIsFloat : AccBag stringIsFloat := by
  refine acc_handleNulls (acc_firstRaise_of (p := fun c => cellFloat c.dtype) (fun _ => ite_ne_ok_true _ _)
    (fun _ _ h => by rw [h.dtype]) fun c c' h h1 h1' h2 => ?_)
  dsimp only at h2 ⊢
  rw [← h.dtype, oks_map_eq FloatV.nan _ _ h1']
  rw [oks_map_eq FloatV.nan _ _ h1] at h2
  have hm := h.perm.map (fun x => okD FloatV.nan (cellFloat c.dtype x))
  rw [← hm.isEmpty_eq, ← (hm.filter _).isEmpty_eq, ← leadingZerosOk_bag _ h.perm]
  exact h2

def hasJIB (x : Cell) : Bool := match x.str with | some f => f.hasJI | none => false

theorem scan_eq (l : List Cell) (h : ∀ x ∈ l, x.str.isSome = true) :
    stringIsComplex.scan l = .ok (l.any hasJIB) := by
  induction l with
  | nil => rfl
  | cons a l ih =>
    have ⟨ha, hl⟩ := List.forall_mem_cons.mp h
    rw [stringIsComplex.scan, List.any_cons, hasJIB]
    cases hs : a.str with
    | none => rw [hs] at ha; cases ha
    | some f => cases hj : f.hasJI <;> simp [ih hl, hj]

theorem acc_stringIsComplex : AccBag stringIsComplex := by
  refine acc_firstRaise_of (p := fun _ => cellComplex) (fun _ => ite_ne_ok_true _ _) (fun _ _ _ => rfl)
    fun c c' h h1 h1' h2 => ?_
  dsimp only at h2 ⊢
  have hstr : ∀ d : Column, firstRaise (d.cells.map cellComplex) = none → ∀ x ∈ d.dropna.cells, x.str.isSome = true :=
    fun d hd x hx =>
      have ⟨f, hf, _⟩ := str_of_cellComplex hd x (mem_dropna.mp hx).1 (mem_dropna.mp hx).2
      hf ▸ rfl
  rw [← ((oks_perm (h.perm.map cellComplex)).filter _).all_eq]
  split at h2
  · cases h2
  · rename_i hz
    simp only [hz, Bool.false_eq_true, if_false]
    rw [scan_eq _ (hstr c h1)] at h2
    rw [scan_eq _ (hstr c' h1'), ← h.dropna.perm.any_eq]
    exact h2

/-- hypothesis about the oracle, validated by the bag runner on real data: `pd.to_datetime` parses element by element, so
on a permuted column it succeeds exactly when it succeeded, with the same tz-awareness, and returns the permuted results -/
def DtBag (o : ColOracle) : Prop :=
  ∀ l l' : List Cell, l.Perm l' → ∀ r tz, o.toDatetime l = .ok (r, tz) → ∃ r', o.toDatetime l' = .ok (r', tz) ∧ r.Perm r'

theorem acc_stringIsDatetime (o : ColOracle) (hdt : DtBag o) : AccBag (stringIsDatetime o) := by
  apply acc_handleNulls
  intro c c' h hc
  dsimp only at hc ⊢
  cases hq : o.toDatetime c.cells with
  | raises cls => rw [hq] at hc; exact absurd hc (ite_ne_ok_true _ _)
  | ok v =>
    obtain ⟨r, tz⟩ := v
    rw [hq] at hc
    obtain ⟨r', hq', hp⟩ := hdt _ _ h.perm r tz hq
    rw [hq']
    simp only [Except.ok.injEq] at hc ⊢
    rw [← hp.any_eq]; exact hc

def EquiBag (t : Column → R Column) : Prop :=
  ∀ c c', SameBag c c' → ∀ d, t c = .ok d → ∃ d', t c' = .ok d' ∧ SameBag d d'

theorem equi_error (err : Column → Err) : EquiBag (fun c => .error (err c)) := fun _ _ _ _ h => nomatch h

theorem equi_ok {δ : Column → DKind} {cells : Column → List Cell} (hδ : ∀ c c', SameBag c c' → δ c = δ c')
    (hc : ∀ c c', SameBag c c' → (cells c).Perm (cells c')) :
    EquiBag (fun c => .ok { c with dtype := δ c, cells := cells c }) := by
  intro c c' h d hd
  cases hd
  exact ⟨_, rfl, hδ c c' h, hc c c' h⟩

theorem equi_ite {b : Column → Bool} {r s : Column → R Column} (hb : ∀ c c', SameBag c c' → b c = b c')
    (hr : EquiBag r) (hs : EquiBag s) : EquiBag (fun c => if b c then r c else s c) := by
  intro c c' h d
  show (if b c = true then r c else s c) = _ → ∃ d', (if b c' = true then r c' else s c') = _ ∧ _
  rw [hb c c' h]
  split
  · exact hr c c' h d
  · exact hs c c' h d

/-- `sel` picks the cells that are converted: all of them, or the non-missing ones (String → Path) -/
theorem equi_firstRaise {α : Type} {p : Column → Cell → Outcome α} {sel : Column → List Cell} {t : Column → R Column}
    (hp : ∀ c c', SameBag c c' → p c' = p c) (hsel : ∀ c c', SameBag c c' → (sel c).Perm (sel c')) (ht : EquiBag t) :
    EquiBag (fun c => match firstRaise ((sel c).map (p c)) with | some cls => .error (escape cls) | _ => t c) := by
  intro c c' h d hd
  have ⟨h1, h2⟩ := (match_firstRaise (fun cls => by simp)).mp hd
  obtain ⟨d', hd', hb⟩ := ht c c' h d h2
  exact ⟨d', (match_firstRaise (fun cls => by simp)).mpr ⟨hp c c' h ▸ firstRaise_map_perm _ (hsel c c' h) h1, hd'⟩, hb⟩

theorem equi_applyStr (p : StrFacts → Outcome Cell) (q : Cell → Outcome Cell) : EquiBag (fun c => applyStr c p q) :=
  equi_firstRaise (p := fun _ x => match x.str with | some f => p f | none => q x) (fun _ _ _ => rfl) (fun _ _ h => h.perm)
    (equi_ok (fun _ _ _ => rfl) fun _ _ h => oks_perm (h.perm.map _))

theorem equi_objectToBoolean : EquiBag objectToBoolean :=
  equi_ite (fun _ _ h => by simp only [h.hasnans, (h.perm.filter _).all_eq, h.perm.any_eq]) (equi_error _)
    (equi_firstRaise (p := fun _ => boolCell) (fun _ _ _ => rfl) (fun _ _ h => h.perm)
      (equi_ok (fun _ _ h => by rw [h.hasnans]) fun _ _ h => oks_perm (h.perm.map _)))

theorem equi_stringToDatetime (o : ColOracle) (hdt : DtBag o) : EquiBag (stringToDatetime o) := by
  intro c c' h d hd
  obtain ⟨r, tz, hq, rfl⟩ := stringToDatetime_ok hd
  obtain ⟨r', hq', hp⟩ := hdt _ _ h.perm r tz hq
  exact ⟨{ c' with dtype := .fam (if tz then .datetimetz else .datetime), cells := r' },
    by simp only [stringToDatetime, hq'], rfl, hp⟩

theorem table_bag {o : ColOracle} (hdt : DtBag o) {src dst : Ty} {g : Column → R Bool} {t : Column → R Column}
    (r : Row o src dst g t) : AccBag g ∧ EquiBag t := by
  cases r with
  | objectBoolean => exact ⟨acc_handleNulls (acc_ok_all _), equi_objectToBoolean⟩
  | stringBoolean =>
    exact ⟨acc_ite (fun _ _ h => by rw [h.perm.all_eq]) (fun _ _ _ h => h)
        (acc_handleNulls (acc_ok fun _ _ h => by simp only [h.perm.all_eq])),
      fun c c' h => equi_objectToBoolean { c with dtype := .object, cells := _ } { c' with dtype := .object, cells := _ }
        ⟨rfl, h.perm.map _⟩⟩
  | stringComplex =>
    exact ⟨acc_stringIsComplex,
      equi_firstRaise (p := fun _ => cellComplex) (fun _ _ _ => rfl) (fun _ _ h => h.perm)
        (equi_ok (fun _ _ _ => rfl) fun _ _ h => (oks_perm (h.perm.map _)).map _)⟩
  | stringDatetime => exact ⟨acc_stringIsDatetime o hdt, equi_stringToDatetime o hdt⟩
  | stringFloat =>
    exact ⟨acc_stringIsFloat,
      equi_firstRaise (p := fun c => cellFloat c.dtype) (fun _ _ h => by rw [h.dtype]) (fun _ _ h => h.perm)
        (equi_ok (fun _ _ _ => rfl) fun _ _ h => by rw [h.dtype]; exact (oks_perm (h.perm.map _)).map _)⟩
  | complexFloat => exact ⟨acc_handleNulls (acc_ok_all _), equi_ok (fun _ _ _ => rfl) (fun _ _ h => h.perm.map _)⟩
  | floatInteger =>
    exact ⟨acc_handleNulls (acc_ok_all _),
      equi_ok (fun _ _ h => by rw [h.hasnans]) (fun _ _ h => h.perm.map _)⟩
  | datetimeDate =>
    exact ⟨acc_handleNulls (acc_ok_all _),
      equi_ite (fun _ _ h => h.perm.any_eq) (equi_error _) (equi_ok (fun _ _ _ => rfl) (fun _ _ h => h.perm.map _))⟩
  | stringGeometry => exact ⟨acc_stringIsGeometry, equi_applyStr _ _⟩
  | stringIp => exact ⟨acc_handleNulls (acc_firstRaise fun _ _ _ h => h), equi_applyStr _ _⟩
  | stringPath =>
    exact ⟨acc_handleNulls (acc_firstRaise (acc_ite (fun _ _ h => (h.perm.map _).all_eq) (fun _ _ _ h => h)
        (acc_firstRaise (acc_ok fun _ _ h => (h.perm.map _).all_eq)))),
      equi_firstRaise (p := fun _ => winOut) (sel := fun c => c.dropna.cells) (fun _ _ _ => rfl) (fun _ _ h => h.dropna.perm)
        (equi_ite (fun _ _ h => (h.dropna.perm.map _).all_eq) (equi_applyStr _ _) (equi_applyStr _ _))⟩
  | stringUrl => exact ⟨acc_handleNulls (acc_firstRaise (acc_ok fun _ _ h => (h.perm.map _).all_eq)), equi_applyStr _ _⟩
  | stringUuid => exact ⟨acc_handleNulls (acc_firstRaise (acc_ok_all _)), equi_applyStr _ _⟩
  | stringEmail => exact ⟨acc_handleNulls (acc_firstRaise (acc_ok_all _)), equi_applyStr _ _⟩

theorem guard_accBag (o : ColOracle) (hdt : DtBag o) (src dst : Ty) (g : Column → R Bool)
    (hg : guard o src dst = some g) : AccBag g :=
  have ⟨_, r⟩ := Row.of_guard hg
  (table_bag hdt r).1

theorem xform_equiBag (o : ColOracle) (hdt : DtBag o) (src dst : Ty) (t : Column → R Column)
    (ht : xform o src dst = some t) : EquiBag t :=
  have ⟨_, r⟩ := Row.of_xform ht
  (table_bag hdt r).2

/-- C11 for `infer`: for every typeset, two columns with the same dtype and the same bag of cells (any row order, any
index labels, any name) are inferred along the same path, and the cast columns again hold the same bag.  Hypothesis:
`DtBag` about `pd.to_datetime` only. -/
theorem infer_bag (o : ColOracle) (hdt : DtBag o) (b : Built Ty) (f : Nat) (n : Ty)
    (c c' : Column) (h : SameBag c c') :
    (ptraverse (pandasTS o b).succ f n c).2 = (ptraverse (pandasTS o b).succ f n c').2 ∧
    SameBag (ptraverse (pandasTS o b).succ f n c).1 (ptraverse (pandasTS o b).succ f n c').1 :=
  (backend o).ptraverse_rel _ b SameBag (hc := fun t _ _ h => containsB_cells t h.sameCells)
    (hg := fun s t g hg x y hxy => ⟨guard_accBag o hdt s t g hg x y hxy, guard_accBag o hdt s t g hg y x hxy.symm⟩)
    (hx := fun s t u hu x y hxy => ⟨xform_equiBag o hdt s t u hu x y hxy, fun d' hd' =>
      (xform_equiBag o hdt s t u hu y x hxy.symm d' hd').imp fun _ => And.left⟩)
    f n c c' h

end V.Pd
