/-
  `numpy_WF`: L0–L3 and the closure of `Good` (= the executable `goodB`), packaged as `TS.WF` for every typeset built from the
  relation table; the lifting theorems for C02, C03, C04, C15, C16 take it from here (`Props/Numpy.lean`).
-/
import VProofs.Obligations.NumpyLands
namespace V.Np
open V V.Gen
open V.Pd (FromTable table_identity_parent outOf_generic outOf_object outOf_string outOf_other_subsingleton)

/-- `(backend o).graph b` unfolds to `graphOf o b`, and `(backend o).ts (32 - rank ·) b` to `numpyTS o b`; the `Backend` lemmas
are applied to `numpyTS` through this -/
def backend (o : NpOracle) : Backend Ty NArr :=
  { contains := containsB, guard := guard o, xform := xform o, rel := mkRel o,
    rel_eq := fun e => by
      unfold mkRel tableRel; split
      · cases guard o e.src e.dst <;> cases xform o e.src e.dst <;> rfl
      · rfl }

def numpyTS (o : NpOracle) (b : Built Ty) : TS Ty NArr :=
  { succ := purify (graphOf o b), contains := containsB, h := fun t => 32 - rank t }

theorem numpyTS_L0 (o : NpOracle) (b : Built Ty) : (numpyTS o b).L0 := (backend o).ts_L0 _ b

/-- tie to what the driver evaluates: when the full-engine traversal returns normally, it returned the pure traversal of
`numpyTS` -/
theorem infer_model_eq (o : NpOracle) (b : Built Ty) (f : Nat) (n : Ty) (c d : NArr) (p : List Ty)
    (h : traverse (graphOf o b) f n c () [] = .ok (d, p, ())) :
    ptraverse (numpyTS o b).succ f n c = (d, p) := (backend o).infer_eq _ b f n c d p h

theorem detect_model_eq (o : NpOracle) (b : Built Ty) (f : Nat) (n : Ty) (c d : NArr) (p : List Ty)
    (h : traverse (graphOf o b).base f n c () [] = .ok (d, p, ())) :
    ptraverse (numpyTS o b).idSucc f n c = (d, p) := (backend o).detect_eq _ b f n c d p h

/-- the model has a guard and a transformer for exactly the pairs of the GENERATED registration list of the numpy back end.
(`s ∈ Ty.all`, `d ∈ Ty.all` hold of every type and are not used.) -/
theorem guard_defined_iff : ∀ s ∈ Ty.all, ∀ d ∈ Ty.all, ∀ o : NpOracle,
    ((guard o s d).isSome = decide ((s, d) ∈ numpyRelationsRegistered)) ∧
    ((xform o s d).isSome = decide ((s, d) ∈ numpyRelationsRegistered)) := by
  intro s _ d _ o
  by_cases hm : (s, d) ∈ numpyRelationsRegistered
  · obtain ⟨g, t, r⟩ := Row.of_mem o hm
    rw [r.guard_eq, r.xform_eq, decide_eq_true hm]; exact ⟨rfl, rfl⟩
  · rw [decide_eq_false hm]
    constructor
    · cases hg : guard o s d with
      | none => rfl
      | some g => obtain ⟨t, r⟩ := Row.of_guard hg; exact absurd r.mem hm
    · cases ht : xform o s d with
      | none => rfl
      | some t => obtain ⟨g, r⟩ := Row.of_xform ht; exact absurd r.mem hm

/-- identity children of Generic in the table that can contain a numpy array at all -/
theorem generic_child_np (d : Ty) (hd : d ∈ Pd.genericChildren) (a : NArr) (h : containsB d a = true) :
    d ∈ genericChildrenNp := by
  rcases containsB_registered h with rfl | rfl | hc
  · exact absurd hd (by decide)
  · exact absurd hd (by decide)
  · exact hc

/-- Boolean hangs under Generic and is the target of Object -> Boolean; no other type is a child of both -/
theorem objChildren_genericChildrenNp : ∀ d ∈ Pd.objChildren, d ∈ genericChildrenNp → d = .Boolean := by decide

/-! The target of an edge out of Generic, Object or String that accepts a good array is determined by the array. -/

section
variable {o : NpOracle} {b : Built Ty} (ft : FromTable b) {x : NArr} (hG : Good o x) {e : Edge Ty} (he : e ∈ b.edges)
  (a : (backend o).Accepts e x)
include ft hG he a

theorem accepted_generic (hs : e.src = .Generic) : e.dst = classify x := by
  have ⟨i, c⟩ := outOf_generic _ (hs ▸ ft.outOf he)
  have k : containsB e.dst x = true := a.id i
  exact (classify_of_contains x (fun y hy => (good_wf hG y hy).1) e.dst (generic_child_np _ c x k) k).symm

/-- Object -> Boolean never accepts a member of Object, and the only identity child of Object the numpy back end knows is
String -/
theorem accepted_object (hs : e.src = .Object) (hc : objectContains x = true) : e.dst = .String := by
  have ⟨hch, hinf⟩ : e.dst ∈ Pd.objChildren ∧ (e.inferential = true ↔ e.dst = .Boolean) := outOf_object _ (hs ▸ ft.outOf he)
  have hnb : e.dst ≠ .Boolean := fun hb => by
    obtain ⟨g, hgd, hgx⟩ := a.inf (hinf.mpr hb)
    rw [hs, hb] at hgd
    cases hgd
    exact object_never_boolean o x hG hc hgx
  have hi : e.inferential = false := Bool.eq_false_iff.mpr fun h => hnb (hinf.mp h)
  rcases containsB_registered (a.id hi) with hd | hd | hd
  · exact absurd (hd ▸ hch : Ty.Generic ∈ Pd.objChildren) (by decide)
  · exact hd
  · exact absurd (objChildren_genericChildrenNp _ hch hd) hnb

theorem accepted_string (hs : e.src = .String) (hc : stringContains x = true) : e.dst = stringTarget o x := by
  obtain ⟨g, hgd, hgx⟩ := a.inf (outOf_string _ (hs ▸ ft.outOf he)).1
  obtain ⟨_, row⟩ := Row.of_guard (hs ▸ hgd : guard o .String e.dst = some g)
  exact stringTarget_of_accept hG hc row hgx

end

theorem numpy_WF (o : NpOracle) (b : Built Ty) (ft : FromTable b) : (numpyTS o b).WF (Good o) := by
  refine (backend o).wf _ b (Good o) (Pd.height_of_rank ft.rank) ft.nodupDst (hnest := ?L1) (hmutex := ?L2) (hlands := ?L3)
  case L1 =>
    intro e he hi x hG hc
    exact nested_np o e.dst e.src (table_identity_parent e.dst ⟨e.src, e.inferential⟩ (ft.decl e he) hi) x hG hc
  case L2 =>
    intro n x hG hc e₁ h₁ e₂ h₂ s₁ s₂ a₁ a₂
    by_cases hgen : n = .Generic
    · subst hgen
      rw [accepted_generic ft hG h₁ a₁ s₁, accepted_generic ft hG h₂ a₂ s₂]
    by_cases hobj : n = .Object
    · subst hobj
      rw [accepted_object ft hG h₁ a₁ s₁ hc, accepted_object ft hG h₂ a₂ s₂ hc]
    by_cases hstr : n = .String
    · subst hstr
      rw [accepted_string ft hG h₁ a₁ s₁ hc, accepted_string ft hG h₂ a₂ s₂ hc]
    · exact outOf_other_subsingleton n ⟨hgen, hobj, hstr⟩ _ (s₁ ▸ ft.outOf h₁) _ (s₂ ▸ ft.outOf h₂)
  case L3 =>
    intro e he _ g hgd x hG hc hgx
    obtain ⟨t, row⟩ := Row.of_guard (hgd : guard o e.src e.dst = some g)
    obtain ⟨c', hc', hl⟩ := row.step hG hc hgx
    exact ⟨t, c', row.xform_eq, hc', hl.contains, hl.good o⟩

end V.Np
