/-
  L6 for `infer` on the numpy model.  `guardsOkNB` (executable) speaks about the INPUT only: intermediate arrays need no
  hypothesis, they are neither a String nor an Object (`Lands`), and only the two total numeric tests run on those.
-/
import VProofs.Obligations.NumpyWF
namespace V.Np
open V V.Gen
open V.Pd (FromTable)

/-- `guardsOkNB` as a proposition (`guardsOkNB_sound`) -/
def GuardsOkN (o : NpOracle) (a : NArr) : Prop :=
  ∀ src dst g, guard o src dst = some g → containsB src a = true → ∃ b, g a = .ok b

theorem guardsOkNB_sound (o : NpOracle) (a : NArr) (h : guardsOkNB o a = true) : GuardsOkN o a := by
  intro src dst g hg hsrc
  obtain ⟨_, r⟩ := Row.of_guard hg
  have := List.all_eq_true.mp h (src, dst) r.mem
  simp only [hsrc, Bool.not_true, Bool.false_or, hg] at this
  cases hga : g a with
  | ok b => exact ⟨b, rfl⟩
  | error e => simp [hga] at this

theorem guardsOk_terminal (o : NpOracle) (a : NArr) (h : Terminal a) : GuardsOkN o a := by
  intro src dst g hg hsrc
  obtain ⟨_, r⟩ := Row.of_guard hg
  rcases r.numeric_of_terminal h hsrc with ⟨rfl, _⟩ | ⟨rfl, _⟩ <;> exact handleNulls_total ⟨_, rfl⟩

/-- `lands_np` in the form the checks register; the proof below uses `Row.step` -/
theorem terminal_of_lands (o : NpOracle) (src dst : Ty) (g : NArr → R Bool) (t : NArr → R NArr)
    (hgd : guard o src dst = some g) (htd : xform o src dst = some t) (a a' : NArr) (hG : Good o a)
    (hc : containsB src a = true) (hg : g a = .ok true) (ht : t a = .ok a') : Terminal a' :=
  (lands_np (Row.of hgd htd) hG hc hg ht).terminal

/-- C09 for `infer`: no test and no transformer raises anywhere along the walk, for every typeset built from the relation
table ALL of whose inference relations the numpy back end registers (`hreg`: true of StandardSet and its sub-typesets —
`standard_registered`; on others the real code raises NotImplementedError, as the model does) and every array satisfying
`Good` (= `goodB`) and `GuardsOkN` -/
theorem infer_total_np (o : NpOracle) (b : Built Ty) (ft : FromTable b)
    (hreg : ∀ e ∈ b.edges, e.inferential = true → (e.src, e.dst) ∈ numpyRelationsRegistered) (a : NArr)
    (hG : Good o a) (hK : GuardsOkN o a) (hroot : containsB b.root a = true) :
    ∃ v, traverse (graphOf o b) 64 b.root a () [] = .ok v := by
  have ⟨d, p, _, hv, _⟩ := (backend o).total (fun t => 32 - rank t) b (Pd.height_of_rank ft.rank)
    (fun x => Good o x ∧ GuardsOkN o x) (hdef := ?hdef) (hg := ?hg) (hx := ?hx) 64 b.root a (Pd.fuel_ok _) ⟨hG, hK⟩ hroot
  · exact ⟨_, hv⟩
  case hdef =>
    intro e he hi
    obtain ⟨g, t, row⟩ := Row.of_mem o (hreg e he hi)
    exact ⟨g, t, row.guard_eq, row.xform_eq⟩
  case hg => exact fun s t g hg x ⟨_, hK⟩ hc => hK s t g hg hc
  case hx =>
    intro s t g u hg hu x ⟨hG, _⟩ hc hgx
    obtain ⟨c', hc', hl⟩ := (Row.of hg hu).step hG hc hgx
    exact ⟨c', hc', ⟨hl.good o, guardsOk_terminal o c' hl.terminal⟩, hl.contains⟩

theorem standard_registered : ∀ s ∈ standardSet, ∀ d ∈ standardSet, ∀ r ∈ declared d, r.src = s → r.inferential = true →
    (s, d) ∈ numpyRelationsRegistered := by decide

end V.Np
