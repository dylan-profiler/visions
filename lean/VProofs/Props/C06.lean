/-
  C06 on the pandas model.  The element parsers themselves (`float`, `uuid.UUID`, …) are data of the model: "exact decoding"
  of a string is by definition what the parser returns; that the *code* puts the parser's value at the same position is
  what the correspondence (cell-by-cell comparison with α) and the decode oracle check.
-/
import VProofs.Lemmas.PandasTS
import VProofs.Obligations.PandasNulls
namespace V.C06
open V V.Gen V.Pd

/-- `pd.to_datetime` returns as many rows as it was given -/
def DtShape (o : ColOracle) : Prop := ∀ cells r tz, o.toDatetime cells = .ok (r, tz) → r.length = cells.length

def Shape (t : Column → R Column) : Prop :=
  ∀ c c', t c = .ok c' → c'.index = c.index ∧ c'.name = c.name ∧ c'.cells.length = c.cells.length

/-- index labels, name and length are kept by every coercion of the relation table (String→DateTime: under `DtShape`) -/
theorem C06_shape (o : ColOracle) (hdt : DtShape o) (src dst : Ty) (t : Column → R Column)
    (ht : xform o src dst = some t) : Shape t := by
  obtain ⟨_, r⟩ := Row.of_xform ht
  cases r
  case objectBoolean => exact fun _ _ h => (mapCells_spec (objectToBoolean_ok h)).shape
  case stringBoolean =>
    exact fun c _ h =>
      have m := mapCells_spec (objectToBoolean_ok ((stringToBoolean_eq c).symm.trans h))
      ⟨m.index, m.name, m.cells.length_eq.symm.trans (List.length_map _)⟩
  case stringComplex => exact fun c _ h => (mapCells_spec (stringToComplex_eq c ▸ h)).shape
  case stringDatetime =>
    intro c c' h
    obtain ⟨r, tz, hq, rfl⟩ := stringToDatetime_ok h
    exact ⟨rfl, rfl, hdt _ _ _ hq⟩
  case stringFloat => exact fun c _ h => (mapCells_spec (stringToFloat_eq c ▸ h)).shape
  case complexFloat => exact fun c _ h => (mapCells_spec (complexToFloat_eq c ▸ h)).shape
  case floatInteger => exact fun c _ h => (mapCells_spec (floatToInteger_eq c ▸ h)).shape
  case datetimeDate => exact fun _ _ h => (mapCells_spec (datetimeToDate_ok h)).shape
  case stringGeometry | stringIp | stringPath | stringUrl | stringUuid | stringEmail =>
    exact fun _ _ h => (strObj_ok (o := o) (by constructor) (by decide) h).shape

/-- **Float → Integer is lossless**: accepted only when every value is an integral float in the
int64 range; each value becomes exactly that integer, each missing value stays missing in place -/
theorem C06_lossless_float_integer (c : Column) (h : floatIsInteger c = .ok true) :
    (∀ x ∈ c.cells, x.null = false → ∃ v, x.pay = .float v ∧ v.isInt64 = true) ∧
    (∃ c', floatToInteger c = .ok c' ∧ c'.cells = c.cells.map (fun x =>
        if x.null then Cell.missing .pdNA else match x.pay with | .float v => Cell.ofInt v.toInt | _ => x)) :=
  ⟨accepts_floatIsInteger h, _, rfl, rfl⟩

/-- **Complex → Float is lossless**: a non-zero imaginary part is never dropped -/
theorem C06_lossless_complex_float (c : Column) (h : complexIsFloat c = .ok true) :
    (∀ x ∈ c.cells, x.null = false → ∃ re im, x.pay = .complex re im ∧ im.isZero = true) ∧
    (∃ c', complexToFloat c = .ok c' ∧ c'.cells = c.cells.map (fun x =>
        match x.pay with | .complex re _ => Cell.ofFloat re | _ => Cell.missing .nan)) :=
  ⟨accepts_complexIsFloat h, _, rfl, rfl⟩

/-- **DateTime → Date is lossless**: only midnight timestamps become dates, each its own day -/
theorem C06_lossless_datetime_date (c : Column) (h : datetimeIsDate c = .ok true) :
    ∀ x ∈ c.cells, x.null = false → ∃ day tz, x.pay = .ts day 0 tz :=
  accepts_datetimeIsDate h

/-! the property's own examples: 1.5 never becomes 1; an imaginary part of 2⁻⁴⁰ is not dropped -/
example : floatIsInteger ⟨.fam .float, [Cell.ofFloat (.fin 3 1)], ["0"], "None"⟩ = .ok false := by rfl
example : floatIsInteger ⟨.fam .float, [Cell.ofFloat (.fin 1 0), Cell.missing .nan], ["0", "1"], "None"⟩ = .ok true := by rfl
example : complexIsFloat ⟨.fam .complex, [Cell.ofComplex (.fin 3 0) (.fin 1 40)], ["0"], "None"⟩ = .ok false := by rfl

/-- **the whole inference walk keeps the shape**: the column that `infer` returns has the index labels, the name and the
number of rows of the input, whatever path was taken (`ft` is not used: the walk of any typeset keeps the shape) -/
theorem C06_shape_infer (o : ColOracle) (hdt : DtShape o) (b : Built Ty) (ft : FromTable b) (f : Nat) (n : Ty) (c : Column) :
    let d := (ptraverse (pandasTS o b).succ f n c).1
    d.index = c.index ∧ d.name = c.name ∧ d.cells.length = c.cells.length := by
  refine (ptraverse_inv _ (fun _ d => d.index = c.index ∧ d.name = c.name ∧ d.cells.length = c.cells.length)
    (fun n x r hx hr => ?_) f n c ⟨rfl, rfl, rfl⟩).1
  rcases (backend o).rel_cases _ (pfirst_eq_some hr).1 with ⟨_, hid⟩ | ⟨_, hxf⟩
  · rw [hid]; exact hx
  · rw [hxf]
    cases ht : (backend o).xform n r.dst with
    | none => exact hx
    | some t =>
      dsimp only
      cases htc : t x with
      | error e => exact hx
      | ok d =>
        obtain ⟨index, name, length⟩ := C06_shape o hdt n r.dst t ht x d htc
        obtain ⟨xIndex, xName, xLength⟩ := hx
        exact ⟨index.trans xIndex, name.trans xName, length.trans xLength⟩

/-- **positions of missing values are kept by every coercion of the relation table** (one step): under `NullHyp` —
a `str` element is not missing and does not parse to NaN (false exactly for the `'nan'` strings of known findings F15 /
F15b), a missing complex value is stored with a NaN real part, `pd.to_datetime` leaves `NaT` where the input is missing.
These are named hypotheses about the input column; the C06 oracle checks the conclusion on the real code for every
generated column, with or without them. -/
theorem C06_nulls_step (o : ColOracle) (src dst : Ty) (g : Column → R Bool) (t : Column → R Column)
    (hg : guard o src dst = some g) (ht : xform o src dst = some t) (c c' : Column) (hyp : NullHyp o c)
    (hsrc : containsB src c = true) (hacc : g c = .ok true) (hx : t c = .ok c') :
    c'.cells.map (·.null) = c.cells.map (·.null) :=
  nulls_pandas o src dst g t hg ht c c' hyp hsrc hacc hx

end V.C06
