/-
  C08 — A DataFrame is typed as independent columns; functional API equals the methods.

  `traverseFrame` mirrors `_traverse_graph_dataframe`; that the *code* is such a map is the Frame
  correspondence runner's job.
-/
import VProofs.Lemmas.Full
namespace V.C08
open V

variable {T D S L : Type}

theorem C08_labels (g : Graph T D S) (f : Nat) (root : T) (e : S) (cols : List (L × D))
    (rs : List (L × (D × List T × S))) (h : traverseFrame g f root e cols = .ok rs) :
    rs.map (·.1) = cols.map (·.1) :=
  (((traverseFrame_ok g f root e cols rs).mp h).imp fun _ _ h1 => h1.1.symm).map_eq

/-- **every column's entry is the per-Series result** (fresh path, fresh state) -/
theorem C08_frame_map (g : Graph T D S) (f : Nat) (root : T) (e : S) (cols : List (L × D))
    (rs : List (L × (D × List T × S))) (h : traverseFrame g f root e cols = .ok rs) :
    ∀ lr ∈ rs, ∃ c, (lr.1, c) ∈ cols ∧ traverse g f root c e [] = .ok lr.2 := fun _ hlr =>
  have ⟨c, hc, hl, ht⟩ := ((traverseFrame_ok g f root e cols rs).mp h).exists_of_mem_right hlr
  ⟨c.2, hl ▸ hc, ht⟩

/-- **no column's result depends on which other columns are present, or on their order**: the two
frames may be a sub-frame, a permuted frame, … of each other; labels are unique -/
theorem C08_subframe (g : Graph T D S) (f : Nat) (root : T) (e : S)
    (cols cols' : List (L × D)) (rs rs' : List (L × (D × List T × S)))
    (h : traverseFrame g f root e cols = .ok rs) (h' : traverseFrame g f root e cols' = .ok rs')
    (hu : (cols.map (·.1)).Nodup) (hu' : (cols'.map (·.1)).Nodup)
    (l : L) (c : D) (hc : (l, c) ∈ cols) (hc' : (l, c) ∈ cols')
    (r r' : D × List T × S) (hr : (l, r) ∈ rs) (hr' : (l, r') ∈ rs') : r = r' := by
  obtain ⟨c1, hc1, ht1⟩ := C08_frame_map g f root e cols rs h (l, r) hr
  obtain ⟨c2, hc2, ht2⟩ := C08_frame_map g f root e cols' rs' h' (l, r') hr'
  rw [eq_of_mem_of_nodup_keys hu hc1 hc] at ht1
  rw [eq_of_mem_of_nodup_keys hu' hc2 hc'] at ht2
  exact Except.ok.inj (ht1.symm.trans ht2)

/-- the detect-vs-infer comparison lists `(label, detected, inferred)` in the original column
order when both dictionaries come from the same frame.  `hu` is not used: `dt` and `it` are functions of the
label, so a repeated label repeats its entry. -/
theorem C08_compare [DecidableEq L] (labels : List L) (hu : labels.Nodup) (dt it : L → T) :
    compareDetectInference (labels.map (fun l => (l, dt l))) (labels.map (fun l => (l, it l)))
      = labels.map (fun l => (l, dt l, it l)) := by
  have hfind : ∀ l ∈ labels, (labels.map (fun l => (l, it l))).find? (fun e => e.1 == l) = some (l, it l) := by
    intro l hl
    have : labels.find? (· == l) = some l := by
      obtain ⟨a, ha⟩ := Option.isSome_iff_exists.mp (List.find?_isSome (p := (· == l)).mpr ⟨l, hl, beq_self_eq_true l⟩)
      rw [ha, eq_of_beq (List.find?_some (p := (· == l)) ha)]
    rw [List.find?_map]
    exact congrArg (Option.map _) this
  rw [compareDetectInference, List.filterMap_map]
  suffices ∀ ls : List L, (∀ l ∈ ls, l ∈ labels) → ls.filterMap (_ ∘ fun l => (l, dt l)) =
      ls.map fun l => (l, dt l, it l) from this labels fun _ h => h
  intro ls
  induction ls with
  | nil => intro _; rfl
  | cons x xs ih =>
    intro hsub
    rw [List.filterMap_cons, Function.comp, hfind x (hsub x List.mem_cons_self),
      ih fun l hl => hsub l (List.mem_cons_of_mem _ hl)]
    rfl

/-- the functional wrappers are the methods (the model has one definition for both; the
correspondence runner checks the five real wrappers against the methods) -/
theorem C08_functional (ts : Typeset T D S) (x : D) :
    ts.detectType x = (ts.detect x).map (fun r => lastOr ts.root r.2.1) ∧
    ts.inferType x = (ts.infer x).map (fun r => lastOr ts.root r.2.1) ∧
    ts.castToDetected x = (ts.detect x).map (·.1) ∧ ts.castToInferred x = (ts.infer x).map (·.1) :=
  ⟨rfl, rfl, rfl, rfl⟩

end V.C08
