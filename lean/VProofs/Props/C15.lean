/-
  C15 — Refinement: a smaller typeset yields the projection of the larger one's answer.
  Engine theorems for any well-formed type system `B` and any parent-closed sub-typeset `A`
  (the restriction of `B`'s relation graph to the types of `A`).  `C15_infer` rests on `ptraverse_split`:
  by exclusivity the relation `A` follows is the one `B` follows, so `B`'s walk is `A`'s walk
  continued from `A`'s answer.  `C15_detect` is that on the identity relations for the prefix, and C16 for the
  rest: a type of `A` on `B`'s path contains the datum and hangs under the root inside `A`, so `A`'s path meets it.
-/
import VProofs.Lemmas.Refine
namespace V.C15
open V

variable {T D : Type}

/-- The inference walk of `A` is a prefix of the inference walk of `B` with the
same data along it, and `B`'s walk is the continuation, from `A`'s answer and `A`'s cast data, along
`B`'s relations: `infer_B(x)` is reachable from `infer_A(x)`. -/
theorem C15_infer (ts : TS T D) {I : D → Prop} (wf : ts.WF I) (A : T → Bool)
    (root : T) (f : Nat) (hf : ts.h root < f) (x : D) (hI : I x) (hx : ts.contains root x = true) :
    let rA := ptraverse (ts.restrict A).succ f root x
    let rB := ptraverse ts.succ f root x
    rA.2 <+: rB.2 ∧
    ptraverse ts.succ f (plast root rA.2) rA.1 = (rB.1, rB.2.drop (rA.2.length - 1)) := by
  intro rA rB
  have key : rB = _ := ptraverse_split (ts.restrict A).succ ts.succ (fun n x => I x ∧ ts.contains n x = true)
    (wf.restrict A).step
    (fun n x r h hr => find?_eq_some_of_le_one (wf.mutex n x h.1 h.2) (mem_restrict_succ.mp (pfirst_eq_some hr).1).1
      (pfirst_eq_some hr).2)
    ts.h wf.height f root x hf ⟨hI, hx⟩ f (Nat.le_refl f)
  rw [key]
  exact ⟨prefix_dropLast_append (getLast?_eq_plast root (ptraverse_path_ne_nil _ _ _ _)) (ptraverse_head ..),
    Prod.ext rfl (List.drop_left' List.length_dropLast).symm⟩

/-- The detection path of `A` is a prefix of that of `B`, consists of types of
`A`, and no later type of `B`'s path belongs to `A`: `detect_A(x)` is the deepest type of `B`'s
detection path that lies in `A`. -/
theorem C15_detect (ts : TS T D) {I : D → Prop} (wf : ts.WF I) (A : T → Bool) (pc : ParentClosed ts A)
    (root : T) (f : Nat) (hf : ts.h root < f) (x : D) (hI : I x) (hx : ts.contains root x = true)
    (hroot : A root = true) :
    let pA := (ptraverse (ts.restrict A).idSucc f root x).2
    let pB := (ptraverse ts.idSucc f root x).2
    pA <+: pB ∧ (∀ t ∈ pB, A t = true → t ∈ pA) ∧ (∀ t ∈ pA, A t = true) := by
  refine ⟨?_, fun t ht hAt => ?_, fun t ht => ?_⟩
  · rw [restrict_idSucc]
    exact (C15_infer ts.idOnly wf.idOnly A root f hf x hI hx).1
  · -- `t` contains `x` and hangs under the root in `ts`, so (parent closure) in `ts.restrict A` too
    exact C16.on_path_of_contains (ts.restrict A) (wf.restrict A) x hI t ((detect_sound ts wf.idGuard f root x hx).2 t ht)
      root (idpath_restrict pc (idpath_of_mem_path ts f root x t ht) hAt) f hf
  · exact ptraverse_nodes (ts.restrict A).idSucc (A · = true)
      (fun _ _ _ hr => (mem_restrict_succ.mp (mem_idSucc.mp hr).1).2) f root x hroot t ht

/-- **Refinement between two type systems**: `tsA`'s adjacency lists are, at the nodes of the parent-closed set `A`, those
of `ts` with target in `A`, up to order (what holds of the typesets built from supply lists `A ⊆ B`).  Then `C15_detect`
and `C15_infer` speak of `tsA`'s walks. -/
theorem refines_of_perm (ts tsA : TS T D) {I : D → Prop} (wf : ts.WF I) (A : T → Bool) (pc : ParentClosed ts A)
    (hperm : ∀ n, A n = true → ((ts.restrict A).succ n).Perm (tsA.succ n))
    (root : T) (f : Nat) (hf : ts.h root < f) (x : D) (hI : I x) (hx : ts.contains root x = true)
    (hroot : A root = true) :
    (let pA := (ptraverse tsA.idSucc f root x).2
     let pB := (ptraverse ts.idSucc f root x).2
     pA <+: pB ∧ (∀ t ∈ pB, A t = true → t ∈ pA) ∧ (∀ t ∈ pA, A t = true)) ∧
    (let rA := ptraverse tsA.succ f root x
     let rB := ptraverse ts.succ f root x
     rA.2 <+: rB.2 ∧ ptraverse ts.succ f (plast root rA.2) rA.1 = (rB.1, rB.2.drop (rA.2.length - 1))) := by
  have wfR := wf.restrict A
  have stay : ∀ n r, A n = true → r ∈ (ts.restrict A).succ n → A r.dst = true :=
    fun n r _ hr => (mem_restrict_succ.mp hr).2
  have einf : ptraverse (ts.restrict A).succ f root x = ptraverse tsA.succ f root x :=
    walk_eq_of_perm_on _ wfR (A · = true) stay _ hperm f root x hroot hI hx
  have edet : ptraverse (ts.restrict A).idSucc f root x = ptraverse tsA.idSucc f root x :=
    walk_eq_of_perm_on (ts.restrict A).idOnly wfR.idOnly (A · = true)
      (fun n r hn hr => stay n r hn (mem_idSucc.mp hr).1) tsA.idSucc (fun n hn => (hperm n hn).filter _)
      f root x hroot hI hx
  rw [← einf, ← edet]
  exact ⟨C15_detect ts wf A pc root f hf x hI hx hroot, C15_infer ts wf A root f hf x hI hx⟩

end V.C15
