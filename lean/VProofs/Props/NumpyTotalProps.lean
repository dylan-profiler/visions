/-
  C09 / C03 / C04 for the numpy model, end to end on what the driver evaluates: for every constructible sub-typeset of
  StandardSet (the typesets whose relations the numpy back end registers) and every array that passes the executable check
  `goodB o a && guardsOkNB o a`, the traversal returns normally, and its answer is sound and convergent.
-/
import VProofs.Obligations.NumpyTotal
import VProofs.Props.Numpy
namespace V.NumpyProps
open V V.Gen V.Np

theorem infer_numpy_complete (o : NpOracle) (S : List Ty) (nd : S.Nodup) (hg : Ty.Generic ∈ S)
    (pc : ParentClosedL declared S) (hsub : ∀ t ∈ S, t ∈ standardSet) (a : NArr)
    (h : (goodB o a && guardsOkNB o a) = true) :
    ∃ b d p, mkTypeset declared isGeneric S = .ok b ∧
      traverse (graphOf o b) 64 b.root a () [] = .ok (d, p, ()) ∧
      containsB (plast b.root p) d = true ∧
      plast b.root (ptraverse (numpyTS o b).idSucc 64 b.root d).2 = plast b.root p ∧
      (ptraverse (numpyTS o b).succ 64 b.root d).1 = d ∧
      plast b.root (ptraverse (numpyTS o b).succ 64 b.root d).2 = plast b.root p := by
  simp only [Bool.and_eq_true] at h
  have hsubC : ∀ t ∈ S, t ∈ completeSet := fun t ht => C14.C14_nested.2 t (C14.C14_nested.1 t (hsub t ht))
  have hreg : ∀ e ∈ presentEdges declared S, e.inferential = true → (e.src, e.dst) ∈ numpyRelationsRegistered := by
    intro e hm hi
    obtain ⟨hd, hs, hdecl⟩ := mem_presentEdges.mp hm
    exact standard_registered e.src (hsub _ hs) e.dst (hsub _ hd) ⟨e.src, e.inferential⟩ hdecl rfl hi
  obtain ⟨⟨d, p, ⟨⟩⟩, hv⟩ := infer_total_np o (closedBuilt declared Ty.Generic S) (Pd.closed_fromTable nd hsubC) hreg a
    h.1 (guardsOkNB_sound o a h.2) rfl
  exact ⟨_, d, p, C14.mkTypeset_closed nd hg pc, hv,
    (backend o).sound_of_ok _ (closed_wf o nd hsubC) (Pd.closed_nodes (backend o) _ hg pc) (Pd.fuel_ok _) h.1 rfl hv⟩

example : (goodB o0 az && guardsOkNB o0 az) = true ∧ (goodB o0 af && guardsOkNB o0 af) = true := by decide +kernel

end V.NumpyProps
