/-
  The hypothesis `convCaughtL` (each element conversion returns or raises a class the test applying it catches; executable, the
  driver evaluates it on every generated sequence) is needed on the INPUT only: every element a transformer produces satisfies
  it, so every accepted relation re-establishes `convCaughtL x ∧ containsL n x`.  The walk is followed for two sequences at
  once (`infer_rel_list`); totality is one sequence walked beside itself.
-/
import VProofs.Props.PyListRel
namespace V.PyProps
open V V.Gen V.Py
open V.Pd (FromTable)

/-- `elemOk` of the elements the transformers produce, evaluated once and read off below, one name per constructor -/
theorem elemOk_table :
    (∀ b, elemOk (Elem.ofBool b) = true ∧ elemOk (Elem.ofDatetime b) = true ∧ elemOk (Elem.ofPurePath b) = true) ∧
    (elemOk Elem.ofDate = true ∧ elemOk Elem.ofUrl = true ∧ elemOk Elem.ofUUID = true) ∧
    (elemOk Elem.ofIP = true ∧ elemOk Elem.ofEmail = true ∧ elemOk Elem.ofGeom = true) ∧
    (elemOk (Elem.ofInt 0) = true ∧ elemOk (Elem.ofComplex .nan .nan) = true) ∧
    elemOk (Elem.ofFloat .nan) = true ∧ elemOk (Elem.ofFloat .pinf) = true ∧ elemOk (Elem.ofFloat .ninf) = true ∧
    elemOk (Elem.ofFloat (.fin 0 0)) = true := by decide

theorem elemOk_ofBool (b : Bool) : elemOk (Elem.ofBool b) = true := (elemOk_table.1 b).1
theorem elemOk_ofDatetime (m : Bool) : elemOk (Elem.ofDatetime m) = true := (elemOk_table.1 m).2.1
theorem elemOk_ofPurePath (a : Bool) : elemOk (Elem.ofPurePath a) = true := (elemOk_table.1 a).2.2
theorem elemOk_ofDate : elemOk Elem.ofDate = true := elemOk_table.2.1.1
theorem elemOk_ofUrl : elemOk Elem.ofUrl = true := elemOk_table.2.1.2.1
theorem elemOk_ofUUID : elemOk Elem.ofUUID = true := elemOk_table.2.1.2.2
theorem elemOk_ofIP : elemOk Elem.ofIP = true := elemOk_table.2.2.1.1
theorem elemOk_ofEmail : elemOk Elem.ofEmail = true := elemOk_table.2.2.1.2.1
theorem elemOk_ofGeom : elemOk Elem.ofGeom = true := elemOk_table.2.2.1.2.2

/-- `elemOk` does not look at the number inside an `int`, a `complex` or a finite `float`, so one value of each stands for all -/
theorem elemOk_ofInt (z : Int) : elemOk (Elem.ofInt z) = true :=
  (show _ = elemOk (Elem.ofInt 0) by simp only [elemOk, Elem.ofInt, intEq]).trans elemOk_table.2.2.2.1.1
theorem elemOk_ofComplex (re im : FloatV) : elemOk (Elem.ofComplex re im) = true :=
  (show _ = elemOk (Elem.ofComplex .nan .nan) by simp only [elemOk, Elem.ofComplex, intEq, Option.isSome_some]).trans
    elemOk_table.2.2.2.1.2
theorem elemOk_ofFloat (v : FloatV) : elemOk (Elem.ofFloat v) = true := by
  obtain ⟨hnan, hpinf, hninf, hfin⟩ := elemOk_table.2.2.2.2
  cases v with
  | nan => exact hnan
  | pinf => exact hpinf
  | ninf => exact hninf
  | fin n d => exact (show _ = elemOk (Elem.ofFloat (.fin 0 0)) by simp only [elemOk, Elem.ofFloat, intEq]).trans hfin

theorem mapT_total {α : Type} {f : Elem → Outcome α} {g : α → Elem} {s : Seq}
    (h : ∀ x ∈ s, ∃ a, f x = .ok a ∧ elemOk (g a) = true) : ∃ r, mapT f g s = .ok r ∧ convCaughtL r = true := by
  refine ⟨_, mapT_eq_ok.mpr ⟨fun x hx => ?_, rfl⟩, ?_⟩
  · obtain ⟨a, ha, _⟩ := h x hx
    rw [ha]
    rfl
  · simp only [convCaughtL, List.all_map, List.all_eq_true, Function.comp]
    intro x hx
    obtain ⟨a, ha, hg⟩ := h x hx
    rwa [okOr_ok ha]

theorem mapT_total' {α : Type} {f : Elem → Outcome α} {g : α → Elem} {s : Seq} (h : ∀ x ∈ s, (f x).isOk = true)
    (hg : ∀ a, elemOk (g a) = true) : ∃ r, mapT f g s = .ok r ∧ convCaughtL r = true :=
  mapT_total fun x hx => have ⟨a, ha⟩ := isOk_iff.mp (h x hx); ⟨a, ha, hg a⟩

/-- **C09 (L6) for the relation transformers of the list back end**: on an accepted sequence of the source type that satisfies
`convCaughtL` the transformer returns (does not raise), and the result again satisfies `convCaughtL` -/
theorem xform_total_list (src dst : Ty) (g : Seq → R Bool) (t : Seq → R Seq) (hg : guardL src dst = some g)
    (ht : xformL src dst = some t) (s : Seq) (hc : containsL src s = true) (hk : convCaughtL s = true)
    (ha : g s = .ok true) : ∃ s', t s = .ok s' ∧ convCaughtL s' = true := by
  cases RelL.of hg ht
  case objectBoolean =>
    refine ⟨_, rfl, ?_⟩
    simp only [convCaughtL, List.all_map, List.all_eq_true, Function.comp]
    intro x hx
    by_cases hn : x.isNone = true
    · simp only [hn, if_true]; exact elemOk_ofBool _
    · simp only [hn]; exact elemOk_of hk x hx
  case stringBoolean =>
    refine mapT_total fun x hx => ?_
    by_cases hs : x.isStr = true
    · cases hl : x.lowerTF with
      | ok o => exact ⟨Elem.ofBool (o == some true), by simp only [hs, if_true], elemOk_ofBool _⟩
      | raises c => rw [(elemOk_sound (elemOk_of hk x hx)).lowerTF c hl] at hs; cases hs
    · exact ⟨x, if_neg hs, elemOk_of hk x hx⟩
  case stringComplex => exact mapT_total' (parseThen_true ha).1 fun p => elemOk_ofComplex p.1 p.2
  case stringDatetime => exact mapT_total' (parseThen_true ha).1 elemOk_ofDatetime
  case stringFloat => exact mapT_total' (parseThen_true ha).1 elemOk_ofFloat
  case stringIp => exact mapT_total' (parseThen_true ha).1 fun _ => elemOk_ofIP
  case stringUuid => exact mapT_total' (parseThen_true ha).1 fun _ => elemOk_ofUUID
  case stringUrl => exact mapT_total' (parseThen_true ha).1 fun _ => elemOk_ofUrl
  case stringEmail => exact mapT_total' (parseThen_true ha).1 fun _ => elemOk_ofEmail
  case stringGeometry =>
    exact mapT_total' (fun x hx => by rw [tryB_allO_true ha _ (List.mem_map_of_mem hx)]; rfl) fun _ => elemOk_ofGeom
  case complexFloat =>
    refine mapT_total' (fun x hx => ?_) elemOk_ofFloat
    have := tryB_allO_true ha _ (List.mem_map_of_mem hx)
    cases hv : x.cval with
    | none => rw [hv] at this; cases this
    | some p => rfl
  case floatInteger =>
    refine mapT_total' (fun x hx => ?_) elemOk_ofInt
    have := tryB_allO_true ha _ (List.mem_map_of_mem hx)
    unfold intEq at this
    unfold intOf
    cases hv : x.fval with
    | none => rw [hv] at this; cases this
    | some v =>
      rw [hv] at this
      cases v with
      | fin n d => rfl
      | nan | pinf | ninf => cases this
  case datetimeDate =>
    unfold containsL at hc
    exact mapT_total' (fun x hx => by rw [List.all_eq_true.mp (notEmpty_iff.mp hc).2 x hx]; rfl) fun _ => elemOk_ofDate
  case stringPath =>
    obtain ⟨win, hu, hall⟩ := stringIsPath_true ha
    rw [stringToPath_of hu]
    exact mapT_total' (fun x hx => by rw [hall x hx]; rfl) elemOk_ofPurePath

-- the `S := Unit` form of `V.traverse_sim` (`Lemmas/Full.lean`), kept under the name DESIGN §12.8 gives; `infer_rel_list` below
-- goes through `Backend.traverse_rel`
theorem traverse_sim {T D : Type} (g : Graph T D Unit) (h : T → Nat) (R : T → D → D → Prop)
    (hh : ∀ n r, r ∈ g.succ n → h r.dst < h n)
    (hg : ∀ n x y, R n x y → ∀ r ∈ g.succ n, ∃ b, r.guard x () = .ok (b, ()) ∧ r.guard y () = .ok (b, ()))
    (hx : ∀ n x y, R n x y → ∀ r ∈ g.succ n, r.guard x () = .ok (true, ()) →
      ∃ x' y', r.xform x () = .ok (x', ()) ∧ r.xform y () = .ok (y', ()) ∧ R r.dst x' y') :
    ∀ f n x y acc, h n < f → R n x y →
      ∃ d d' p m, traverse g f n x () acc = .ok (d, p, ()) ∧ traverse g f n y () acc = .ok (d', p, ()) ∧
        p.getLast? = some m ∧ R m d d' := by
  intro f n x y acc hf hi
  have ⟨d, d', p, _, m, h⟩ := V.traverse_sim g h R hh
    (fun n x y hi r hr _ => let ⟨b, h1, h2⟩ := hg n x y hi r hr; ⟨b, (), h1, h2⟩)
    (fun n x y hi r hr _ _ ha => let ⟨x', y', h1, h2, h3⟩ := hx n x y hi r hr ha; ⟨x', y', (), h1, h2, h3⟩)
    f n x y () acc hf hi
  exact ⟨d, d', p, m, h⟩

theorem infer_rel_list (Q : Seq → Seq → Prop) (hQss : ∀ x y, Q x y → SameSet x y)
    (hQx : ∀ src dst t, xformL src dst = some t → ∀ x y r, Q x y → t x = .ok r → ∃ r', t y = .ok r' ∧ Q r r')
    (b : Built Ty) (ft : FromTable b) (s s' : Seq) (hp : Q s s') (hk : convCaughtL s = true)
    (hroot : containsL b.root s = true) :
    ∃ d d' p m, traverse (graphOfL b) 64 b.root s () [] = .ok (d, p, ()) ∧
      traverse (graphOfL b) 64 b.root s' () [] = .ok (d', p, ()) ∧ p.getLast? = some m ∧
      Q d d' ∧ convCaughtL d = true ∧ containsL m d = true := by
  refine backend.traverse_rel (fun t => 32 - rank t) b (Pd.height_of_rank ft.rank) (convCaughtL · = true) Q
    (hdef := fun _ he hi => registeredL ft he hi)
    (hg := fun s t g hg x hk hc => C09_tests_total_list s t g hg x hc hk)
    (hx := ?hx)
    (hc := fun t x y h => containsL_ss t x y (hQss _ _ h))
    (hgr := fun s t g hg x y h hk hc => guard_perm_list s t g hg x y hc hk (hQss _ _ h))
    (hxr := hQx) 64 b.root s s' (Pd.fuel_ok _) hk hp hroot
  case hx =>
    intro s t g u hg hu x hk hc hgx
    obtain ⟨x', hx', hk'⟩ := xform_total_list s t g u hg hu x hc hk hgx
    exact ⟨x', hx', hk', C03_lands_list s t g u hg hu x x' hc hgx hx'⟩

/-- **C09 for the list model: `infer` never raises**, for every typeset built from the relation table and every sequence
satisfying `convCaughtL` -/
theorem infer_total_list (b : Built Ty) (ft : FromTable b) (s : Seq) (hk : convCaughtL s = true)
    (hroot : containsL b.root s = true) :
    ∃ d p m, traverse (graphOfL b) 64 b.root s () [] = .ok (d, p, ()) ∧ p.getLast? = some m ∧
      (convCaughtL d = true ∧ containsL m d = true) := by
  obtain ⟨d, _, p, m, h, _, hl, _, hd⟩ := infer_rel_list Eq (hQss := fun _ _ e _ => e ▸ Iff.rfl)
    (hQx := fun _ _ _ _ _ _ r e hr => ⟨r, e ▸ hr, rfl⟩) b ft s s rfl hk hroot
  exact ⟨d, p, m, h, hl, hd⟩

/-- **C09 / C03 for the list model, end to end on what the driver evaluates**: for every constructible sub-typeset of
CompleteSet and every sequence that passes the executable check `convCaughtL`, `infer` returns normally, and the data it
returns is a member of the type it reports (and again satisfies `convCaughtL`) -/
theorem infer_list_complete (S : List Ty) (nd : S.Nodup) (hg : Ty.Generic ∈ S) (pc : ParentClosedL declared S)
    (hsub : ∀ t ∈ S, t ∈ completeSet) (s : Seq) (h : convCaughtL s = true) :
    ∃ b d p, mkTypeset declared isGeneric S = .ok b ∧ traverse (graphOfL b) 64 b.root s () [] = .ok (d, p, ()) ∧
      containsL (plast b.root p) d = true ∧ convCaughtL d = true := by
  obtain ⟨d, p, m, hv, hl, hk, hc⟩ := infer_total_list _ (Pd.closed_fromTable nd hsub) s h rfl
  refine ⟨_, d, p, C14.mkTypeset_closed nd hg pc, hv, ?_, hk⟩
  simp only [plast, hl, Option.getD_some]
  exact hc

example : convCaughtL [sNum (.fin 3 1) false, sNum (.fin 2 0) false] = true ∧
    convCaughtL [Elem.ofInt 3, Elem.ofFloat .nan, { Elem.blank with isNone := true }] = true := by decide

end V.PyProps
