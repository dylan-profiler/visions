/-
  C02 — Decidable traversal: the answer does not depend on type enumeration order.
-/
import VProofs.Lemmas.Pure
import VProofs.Obligations.PandasMutex
namespace V.C02
open V

variable {T D : Type}

/-- Any two orders of every adjacency list: that is every order in which the typeset's types and relations
happen to be enumerated.  Of `ts.WF I` the proof uses sibling exclusivity at the configurations visited, and
`lands` / `closed` to stay among the members for which it is stated. -/
theorem C02_order_indep (ts : TS T D) {I : D → Prop} (wf : ts.WF I) (s₂ : T → List (PRel T D))
    (hp : ∀ n, (ts.succ n).Perm (s₂ n)) (f : Nat) (n : T) (x : D) (hI : I x) (hx : ts.contains n x = true) :
    ptraverse ts.succ f n x = ptraverse s₂ f n x :=
  walk_eq_of_perm_on ts wf (fun _ => True) (fun _ _ _ _ => trivial) s₂ (fun n _ => hp n) f n x trivial hI hx

open V.Gen V.Pd

/-! the two halves of `mutex_generic`, under the names the C02 check registers (`dtypePred` is the model's `dtypeOk`) -/

theorem contains_dtypePred (t : Ty) (c : Column) (h : containsB t c = true) : dtypeOk t c.dtype = true :=
  dtypeOk_of_contains h

theorem dtype_partition (d : DKind) (t₁ t₂ : Ty) (h₁ : t₁ ∈ genericChildren) (h₂ : t₂ ∈ genericChildren)
    (hne : t₁ ≠ t₂) : ¬ (dtypeOk t₁ d = true ∧ dtypeOk t₂ d = true) := Pd.dtype_partition d t₁ t₂ h₁ h₂ hne

/-- L2 at `Generic`: the dtype families are disjoint -/
theorem C02_mutex_generic_pandas (c : Column) (t₁ t₂ : Ty) (h₁ : t₁ ∈ genericChildren)
    (h₂ : t₂ ∈ genericChildren) (hne : t₁ ≠ t₂) :
    ¬ (containsB t₁ c = true ∧ containsB t₂ c = true) := mutex_generic c t₁ t₂ h₁ h₂ hne

/-- L2 at `Object`: no two of the ten outgoing relations (String, Date, Time, URL, UUID, EmailAddress, Path,
Geometry, IPAddress by membership; Boolean by its inference test) accept a column with a value, given that no
cell has two of the class properties at once (`HeadExcl`, facts about CPython classes) -/
theorem C02_mutex_object_pandas (c : Column) (hv : HasValue c) (hdc : DtypeCells c)
    (hex : ∀ x ∈ c.cells, x.null = false → HeadExcl x)
    (d₁ d₂ : Ty) (h₁ : d₁ ∈ objChildren) (h₂ : d₂ ∈ objChildren) (hne : d₁ ≠ d₂) :
    ¬ (acceptsObj d₁ c ∧ acceptsObj d₂ c) := mutex_object c hv hdc hex d₁ d₂ h₁ h₂ hne

/-- L2 at `String`: no two of the ten inference relations accept, *given* that the element parsers and
`pd.to_datetime` accept disjoint sets of strings (`StrExcl`, `FloatComplex`, `DtExcl`) -/
theorem C02_mutex_string_pandas (o : ColOracle) (c : Column) (hv : HasValue c) (hsn : StrNotNull c)
    (hex : ∀ x ∈ c.cells, ∀ f, x.str = some f → StrExcl f ∧ FloatComplex f) (hdt : DtExcl o c)
    (d₁ d₂ : Ty) (h₁ : d₁ ∈ .DateTime :: strParsers) (h₂ : d₂ ∈ .DateTime :: strParsers) (hne : d₁ ≠ d₂) :
    ¬ (acceptsStr o d₁ c ∧ acceptsStr o d₂ c) := mutex_string o c hv hsn hex hdt d₁ d₂ h₁ h₂ hne

/-- the parser-disjointness hypothesis is *false* for particular strings — known finding F10: for the facts of
`'1'*32` (a float literal and a UUID) both String→Float and String→UUID accept the one-row column -/
def factsF10 : StrFacts :=
  { boolKey := none, floatVal := .ok (.fin 11111111111111111111111111111111 0), firstIsZero := false, hasJI := false,
    complexVal := .ok (.fin 11111111111111111111111111111111 0, .fin 0 0), wkt := .raises "GEOSException|ShapelyError",
    ip := .raises "ValueError", winAbs := .ok (false, "1"), posixAbs := .ok (false, "1"), url := .ok (false, false, "1"),
    uuid := .ok "11111111-1111-1111-1111-111111111111", email := .raises "TypeError", truthy := true }

theorem C02_witness_F10 :
    let x : Cell := { Cell.blank with cls := "str", isStr := true, strEq := .ok true, str := some factsF10 }
    let c : Column := ⟨.object, [x], ["0"], "None"⟩
    stringIsFloat c = .ok true ∧ stringIsUuid c = .ok true ∧ ¬ StrExcl factsF10 := by
  refine ⟨by rfl, by rfl, ?_⟩
  intro h
  exact h .Float (by simp [strParsers]) .UUID (by simp [strParsers]) (by decide) (by simp) (by simp) ⟨rfl, rfl⟩

end V.C02
