/-
  C01 — Detection is sound and most specific.

  `C01_detect` is a fact about the engine plus L0 (identity relations test the target's membership
  and return the data unchanged), for any type system, typeset, successor order and input: every type
  on the detection path contains the input, no identity child (in the typeset) of the last one does,
  and the input comes back unchanged.
-/
import VProofs.Lemmas.Refine
import VProofs.Lemmas.PandasTS
namespace V.C01
open V

variable {T D : Type}

theorem C01_detect (ts : TS T D) (l0 : ts.L0) (hh : ∀ n r, r ∈ ts.succ n → ts.h r.dst < ts.h n)
    (root : T) (f : Nat) (hf : ts.h root < f) (x : D) (hx : ts.contains root x = true) :
    let res := ptraverse ts.idSucc f root x
    res.1 = x ∧ res.2.head? = some root ∧
    (∀ t ∈ res.2, ts.contains t x = true) ∧
    Linked (fun a b => ∃ r ∈ ts.idSucc a, r.dst = b) res.2 ∧
    (∀ r ∈ ts.idSucc (plast root res.2), ts.contains r.dst x = false) :=
  detect_sound_most_specific ts l0 hh root f hf x hx

open V.Gen V.Pd

/-- C01 for pandas columns: every typeset whose edges increase `rank` (all parent-closed typesets, by C14),
every abstract column (any dtype family, any cells, any placement of missing values, any length, any index). -/
theorem C01_pandas (o : ColOracle) (b : Built Ty) (hrank : ∀ e ∈ b.edges, rank e.src < rank e.dst)
    (c : Column) (hroot : containsB b.root c = true) :
    let res := ptraverse (pandasTS o b).idSucc 64 b.root c
    res.1 = c ∧ res.2.head? = some b.root ∧ (∀ t ∈ res.2, containsB t c = true) ∧
    Linked (fun a b' => ∃ r ∈ (pandasTS o b).idSucc a, r.dst = b') res.2 ∧
    (∀ r ∈ (pandasTS o b).idSucc (plast b.root res.2), containsB r.dst c = false) :=
  C01_detect (pandasTS o b) (pandasTS_L0 o b) ((backend o).ts_height _ b (height_of_rank hrank)) b.root 64
    (fuel_ok _) c hroot

/-- `C01_pandas` on what the executable model (the function the correspondence runner compares with
`VisionsTypeset.detect`) returns, whenever it returns normally -/
theorem C01_pandas_model (o : ColOracle) (b : Built Ty) (hrank : ∀ e ∈ b.edges, rank e.src < rank e.dst)
    (c d : Column) (p : List Ty) (hroot : containsB b.root c = true)
    (h : traverse (graphOf o b).base 64 b.root c () [] = .ok (d, p, ())) :
    d = c ∧ p.head? = some b.root ∧ (∀ t ∈ p, containsB t c = true) ∧
    (∀ r ∈ (pandasTS o b).idSucc (plast b.root p), containsB r.dst c = false) := by
  have e := detect_model_eq o b 64 b.root c d p h
  have ⟨h1, h2, h3, _, h5⟩ := C01_pandas o b hrank c hroot
  rw [e] at h1 h2 h3 h5
  exact ⟨h1, h2, h3, h5⟩

example :
    let b := (mkTypeset declared isGeneric standardSet)
    (match b with
     | .ok b => (ptraverse (pandasTS ⟨fun _ => .raises "x"⟩ b).idSucc 64 b.root
        ⟨.fam .float, [Cell.ofFloat (.fin 3 1)], ["0"], "None"⟩).2
     | .error _ => []) = [Ty.Generic, Ty.Float] := by decide

end V.C01
