/-
  C14 — Every constructible typeset is a well-formed rooted relation graph.

  `tableWF` (`Lemmas/Table`) re-checks, by kernel evaluation over the *generated* relation table, the facts about
  the shipped types the general theorem needs.  `C14_wf` is then a general theorem (not an
  enumeration): it covers every parent-closed subset of the shipped types containing Generic
  (1,180,800 by the Graph runner's enumeration) in every supply order.
-/
import VProofs.Lemmas.Table
namespace V.C14
open V V.Gen

/-- `S`: a supply list (any order) containing Generic and the identity parent of each of its members.
The last three clauses: the relation graph is acyclic (every edge increases `rank`), and the identity
graph is a tree rooted at Generic spanning `S` (every non-root type has exactly one identity in-edge,
from its parent, and hangs under Generic). -/
theorem C14_wf (S : List Ty) (nd : S.Nodup) (hg : Ty.Generic ∈ S) (pc : ParentClosedL declared S) :
    ∃ b, mkTypeset declared isGeneric S = .ok b ∧
      b.nodes = S ∧ b.root = Ty.Generic ∧ b.orphaned = [] ∧
      (∀ e, e ∈ b.edges ↔ e.dst ∈ S ∧ e.src ∈ S ∧ (⟨e.src, e.inferential⟩ : RelDecl Ty) ∈ declared e.dst) ∧
      (∀ e ∈ b.edges, rank e.src < rank e.dst) ∧
      (∀ n ∈ S, n ≠ Ty.Generic → ∃ p, ∀ e, (e ∈ b.edges ∧ e.dst = n ∧ e.inferential = false) ↔ e = ⟨p, n, false⟩) ∧
      (∀ n ∈ S, IdReach b.edges Ty.Generic n) :=
  ⟨_, mkTypeset_closed nd hg pc, rfl, rfl, rfl, fun _ => mem_presentEdges,
    fun e he => tableWF.rankInc e.dst ⟨e.src, e.inferential⟩ (mem_presentEdges.mp he).2.2,
    fun _ hn hne => one_identity_in tableWF pc hn hne, idReach_of_closed tableWF pc⟩

/-- two supply orders: the same nodes up to order, the same root, the same set of edges -/
theorem C14_order (S S' : List Ty) (hp : S.Perm S') (nd : S.Nodup) (hg : Ty.Generic ∈ S)
    (pc : ParentClosedL declared S) :
    ∃ b b', mkTypeset declared isGeneric S = .ok b ∧ mkTypeset declared isGeneric S' = .ok b' ∧
      b.nodes.Perm b'.nodes ∧ b.root = b'.root ∧ (∀ e, e ∈ b.edges ↔ e ∈ b'.edges) :=
  ⟨_, _, mkTypeset_closed nd hg pc,
    mkTypeset_closed_perm hp nd hg pc,
    hp, rfl, fun e => by simp only [closedBuilt, mem_presentEdges, hp.mem_iff]⟩

/-- the shipped typesets satisfy the hypotheses of `C14_wf` -/
theorem standard_ok : standardSet.Nodup ∧ Ty.Generic ∈ standardSet ∧ ParentClosedL declared standardSet := by
  decide
theorem geometry_ok : geometrySet.Nodup ∧ Ty.Generic ∈ geometrySet ∧ ParentClosedL declared geometrySet := by
  decide
theorem complete_ok : completeSet.Nodup ∧ Ty.Generic ∈ completeSet ∧ ParentClosedL declared completeSet := by
  decide

theorem C14_nested : (∀ t ∈ standardSet, t ∈ geometrySet) ∧ (∀ t ∈ geometrySet, t ∈ completeSet) := by
  constructor <;> decide

end V.C14
