/-
  C11 for the numpy model, for every typeset built from the relation table: detection and inference read the bag of elements
  only (`NumpyBag`) and are unchanged by repeating the array (`NumpyRepeat`).
-/
import VProofs.Obligations.NumpyRepeat
namespace V.NumpyProps
open V V.Gen V.Np

/-- **detect_type is a property of the bag**, for every typeset built from the table: two arrays of the same dtype kind
holding the same elements in any order are detected along the same path (hypothesis: the element class facts of `goodB`) -/
theorem C11_detect_numpy (o : NpOracle) (b : Built Ty) (f : Nat) (a a' : NArr) (hk : a.kind = a'.kind)
    (hp : a.elems.Perm a'.elems) (hw : ∀ x ∈ a.elems, ElemWF a.kind x) :
    (ptraverse (numpyTS o b).idSucc f b.root a).2 = (ptraverse (numpyTS o b).idSucc f b.root a').2 :=
  detect_sim (numpyTS o b) (numpyTS_L0 o b) (fun x y => SameBagN x y ∧ ∀ e ∈ x.elems, ElemWF x.kind e)
    (fun t _ _ ⟨bag, wf⟩ => containsB_congr t bag.kind bag.mem wf) f b.root a a' ⟨⟨hk, hp⟩, hw⟩

/-- **infer_type and the cast data are properties of the bag**: same inference path, cast arrays with the same bag -/
theorem C11_infer_numpy (o : NpOracle) (hdt : DtBagN o) (hdi : ∀ a r, o.dtWhole a = .ok r → InvN r) (b : Built Ty) (f : Nat)
    (a a' : NArr) (hk : a.kind = a'.kind) (hp : a.elems.Perm a'.elems) (hI : InvN a) :
    (ptraverse (numpyTS o b).succ f b.root a).2 = (ptraverse (numpyTS o b).succ f b.root a').2 ∧
    SameBagN (ptraverse (numpyTS o b).succ f b.root a).1 (ptraverse (numpyTS o b).succ f b.root a').1 :=
  infer_bag_np o hdt hdi b f b.root a a' ⟨hk, hp⟩ hI

-- `o0` and `az` of `Props/Numpy.lean`, which this module does not import
def oNo : NpOracle := { dtMasked := fun _ => .raises "ValueError", dtWhole := fun _ => .raises "ValueError" }
def azz : NArr := { kind := .c, elems := [NElem.ofComplex (.fin 1 0) (.fin 0 0), NElem.ofComplex (.fin 2 0) (.fin 0 0)] }
example : DtBagN oNo := ⟨fun _ _ _ r h => (by cases h), fun _ _ _ r h => (by cases h)⟩
example : InvN azz :=
  invN_of_made (k := .c) (fun y hy => by
    simp only [List.mem_cons, List.not_mem_nil, or_false] at hy
    rcases hy with rfl | rfl <;> exact .complex _ _)

/-- **detect_type is unchanged by repeating the array**, for every typeset built from the table -/
theorem C11_detect_repeat_numpy (o : NpOracle) (b : Built Ty) (f : Nat) (a : NArr) (k : Nat)
    (hw : ∀ x ∈ a.elems, ElemWF a.kind x) :
    (ptraverse (numpyTS o b).idSucc f b.root (repeatArr a k)).2 = (ptraverse (numpyTS o b).idSucc f b.root a).2 :=
  detect_sim (numpyTS o b) (numpyTS_L0 o b) (fun x y => x = repeatArr y k ∧ ∀ e ∈ y.elems, ElemWF y.kind e)
    (fun t _ y ⟨e, wf⟩ => e ▸ containsB_repeat_np t y k wf) f b.root _ a ⟨rfl, hw⟩

/-- **infer_type is unchanged by repeating the array, and the cast of the repetition is the repetition of the cast**
(hypotheses: `InvN` on the array — the element facts of `goodB` —, and `pd.to_datetime` parses element by element) -/
theorem C11_infer_repeat_numpy (o : NpOracle) (hd : DtRepN o) (hdi : ∀ a r, o.dtWhole a = .ok r → InvN r) (b : Built Ty)
    (f : Nat) (a : NArr) (k : Nat) (hI : InvN a) :
    (ptraverse (numpyTS o b).succ f b.root (repeatArr a k)).2 = (ptraverse (numpyTS o b).succ f b.root a).2 ∧
    (ptraverse (numpyTS o b).succ f b.root (repeatArr a k)).1 = repeatArr (ptraverse (numpyTS o b).succ f b.root a).1 k := by
  refine ((backend o).ptraverse_rel _ b (fun x y => x = repeatArr y k ∧ InvN y) (hc := ?hc) (hg := ?hg) (hx := ?hx) f b.root
    (repeatArr a k) a ⟨rfl, hI⟩).imp_right And.left
  case hc => exact fun t x y ⟨e, inv⟩ => e ▸ containsB_repeat_np t y k inv.elemWF
  case hg => exact fun s t g hg x y ⟨e, _⟩ => by rw [e, guard_repeat o hd s t g hg y k]
  case hx =>
    intro s t u hu x y ⟨e, inv⟩
    rw [e, xform_repeat o hd s t u hu y k]
    cases huy : u y with
    | ok d => exact ⟨fun _ e => ⟨d, rfl, (Except.ok.inj e).symm, xform_invN hdi hu inv huy⟩, fun _ _ => ⟨_, rfl⟩⟩
    | error _ => exact ⟨fun _ e => (nomatch e), fun _ e => (nomatch e)⟩

end V.NumpyProps
