/-
  A tripwire, not a property: the decorator stacks and `except` clauses of every function of the pandas, numpy and python back
  ends, regenerated from the AST on every run, are those the hand-written models mirror.  A change of which wrappers guard a
  membership test, or of what a relation test catches, breaks this proof even when no generated input tells the two versions apart.
-/
import VModel.Generated.BackendShapes
import VModel.BackendShapesModel
namespace V.Shapes
open V V.Gen

theorem shapes_match : backendShapes = modelShapes := rfl

/-- the generated table has rows for each of the three back ends, so `shapes_match` does not hold of an empty table -/
theorem shapes_cover : (["pandas", "numpy", "python"].all fun b => backendShapes.any fun r => r.1 == b) = true := by decide +kernel

end V.Shapes
