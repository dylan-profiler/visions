/-
  C18 for the pandas model: for every typeset built from the relation table, every sampler (any random draw), every sample
  size and every `Good` column, whatever the sampled traversal returns `(d, p, _)` in its sampling branch, `d` belongs to the
  last type of `p` (and is `Good`): by `C18_sound` it is the input pushed through the relations along `p`, each of whose tests
  accepted the FULL data at that point.
-/
import VProofs.Props.C18
import VProofs.Props.Pandas
namespace V.C18
open V V.Gen V.Pd

/-- `graph[a][b]["relationship"]` of a built typeset over pandas columns -/
def relOf (o : ColOracle) (b : Built Ty) (x y : Ty) : Option (Rel Ty Column Unit) :=
  (b.edges.find? (fun e => e.src == x && e.dst == y)).map (mkRel o)

theorem C18_pandas (o : ColOracle) (b : Built Ty) (ft : FromTable b) (sample : Column → Column) (len : Column → Nat)
    (k : Nat) (c : Column) (hG : Good o c) (hroot : containsB b.root c = true)
    (hbig : ¬ (len c < 1000 ∨ k > len c)) (d : Column) (p : List Ty)
    (h : traverseSampled (graphOf o b) (relOf o b) sample len 64 b.root c k () = .ok (d, p, ())) :
    ∃ hops, p = b.root :: hops ∧ containsB ((b.root :: hops).getLast (by simp)) d = true ∧ Good o d := by
  obtain ⟨ds, ps, s1, hops, sEnd, _, _, hp, hth⟩ :=
    C18_sound (graphOf o b) (relOf o b) sample len 64 b.root c k () hbig d p () h
  refine ⟨hops, hp, C18_lands (relOf o b) (fun t x => containsB t x = true ∧ Good o x) ?_
    b.root c s1 hops d sEnd hth ⟨hroot, hG⟩⟩
  -- a relation of the typeset that accepts and returns is an accepting relation of the purified system,
  -- which is well formed: it lands in its target and keeps `Good`
  intro a t r x s s1' x' s2 hrel hc hg hx
  simp only [relOf, Option.map_eq_some_iff] at hrel
  obtain ⟨e, he, rfl⟩ := hrel
  have hst := List.find?_some he
  simp only [Bool.and_eq_true, beq_iff_eq] at hst
  have hmem : purifyRel (mkRel o e) ∈ (pandasTS o b).succ a :=
    ((backend o).mem_ts_succ _).mpr ⟨e, List.mem_of_find?_eq_some he, hst.1, rfl⟩
  have wf := pandas_WF' o b ft
  rw [← purifyRel_xform hx, ← hst.2, ← (backend o).pure_dst e]
  exact ⟨wf.lands a _ x hmem hc.2 hc.1 (purifyRel_guard hg), wf.closed a _ x hmem hc.2 hc.1 (purifyRel_guard hg)⟩

end V.C18
