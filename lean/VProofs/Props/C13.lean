/-
  C13 — Typeset algebra obeys set laws and never modifies its operands.

  Every algebra operation of the real code is "compute a set of types, hand it to the typeset
  constructor".  The set is modelled by a duplicate-free list; Python iterates the resulting `set`
  in an address-dependent order, so each theorem is stated for an *arbitrary* supply order `ord`
  of the result set.  Operands are values in the model: that the real operands are not mutated is
  observed by the algebra correspondence runner (partial: in-place mutation is not expressible).
-/
import VProofs.Props.C14
namespace V.C13
open V V.Gen

variable {T : Type} [DecidableEq T]

theorem mem_replaceTypes (a : List T) (old new : T) (r : List T)
    (h : replaceTypes a old new = .ok r) (t : T) : t ∈ r ↔ (t ∈ a ∨ t = new) ∧ t ≠ old := by
  simp only [replaceTypes] at h
  split at h
  · cases h; simp [mem_setUnion]
  · cases h

/-- `replace` of a type that is absent raises `KeyError` (unless it is the new type itself) -/
theorem replace_absent (a : List T) (old new : T) (h : old ∉ a) (hne : old ≠ new) :
    replaceTypes a old new = .error .keyError := by
  simp [replaceTypes, mem_setUnion, h, hne]

theorem add_comm_set (a b : List T) (t : T) : t ∈ addTypes a b ↔ t ∈ addTypes b a := by
  simp only [mem_addTypes]; exact Or.comm
theorem add_assoc_set (a b c : List T) (t : T) :
    t ∈ addTypes (addTypes a b) c ↔ t ∈ addTypes a (addTypes b c) := by
  simp only [mem_addTypes]; exact or_assoc
theorem add_idem_set (a : List T) (t : T) : t ∈ addTypes a a ↔ t ∈ a := by
  simp only [mem_addTypes]; exact or_self_iff
theorem sub_add_set (a b : List T) (t : T) : t ∈ addTypes (subTypes a b) b ↔ t ∈ addTypes a b := by
  simp only [mem_addTypes, mem_subTypes]
  by_cases hb : t ∈ b <;> simp [hb]
theorem sub_self_set (a : List T) (t : T) : t ∉ subTypes a a := by
  simp [mem_subTypes]

/-- **The constructor is a function of the *set* of types** (for parent-closed sets containing
Generic): `R`, `R'` are e.g. the two sides of a set identity, in any two iteration orders. -/
theorem C13_same_set (R R' : List Ty) (nd : R.Nodup) (nd' : R'.Nodup) (hset : ∀ t, t ∈ R ↔ t ∈ R')
    (hg : Ty.Generic ∈ R) (pc : ParentClosedL declared R) :
    ∃ b b', mkTypeset declared isGeneric R = .ok b ∧ mkTypeset declared isGeneric R' = .ok b' ∧
      b.root = Ty.Generic ∧ b'.root = Ty.Generic ∧ b.nodes = R ∧ b'.nodes = R' ∧
      (∀ e, e ∈ b.edges ↔ e ∈ b'.edges) :=
  ⟨_, _, C14.mkTypeset_closed nd hg pc, C14.mkTypeset_closed nd' ((hset _).mp hg) (pc.of_mem_iff hset),
    rfl, rfl, rfl, rfl, fun e => by simp only [closedBuilt, mem_presentEdges, hset]⟩

theorem mk_of_perm {R ord : List Ty} (nd : R.Nodup) (hord : ord.Perm R) (hg : Ty.Generic ∈ R)
    (pc : ParentClosedL declared R) :
    ∃ b, mkTypeset declared isGeneric ord = .ok b ∧ b.root = Ty.Generic ∧ ∀ t, t ∈ b.nodes ↔ t ∈ R :=
  ⟨_, C14.mkTypeset_closed_perm hord.symm nd hg pc, rfl, fun _ => hord.mem_iff⟩

/-- `A + B` (typeset + typeset or typeset + type), for a parent-closed result and whatever the
iteration order `ord` of the union -/
theorem C13_add_types (A B ord : List Ty) (hA : A.Nodup) (hB : B.Nodup)
    (hord : ord.Perm (addTypes A B)) (hg : Ty.Generic ∈ addTypes A B)
    (pc : ParentClosedL declared (addTypes A B)) :
    ∃ b, mkTypeset declared isGeneric ord = .ok b ∧ b.root = Ty.Generic ∧
      (∀ t, t ∈ b.nodes ↔ t ∈ A ∨ t ∈ B) := by
  simpa only [mem_addTypes] using mk_of_perm (nodup_addTypes A B hA hB) hord hg pc

theorem C13_sub_types (A B ord : List Ty) (hA : A.Nodup)
    (hord : ord.Perm (subTypes A B)) (hg : Ty.Generic ∈ subTypes A B)
    (pc : ParentClosedL declared (subTypes A B)) :
    ∃ b, mkTypeset declared isGeneric ord = .ok b ∧ b.root = Ty.Generic ∧
      (∀ t, t ∈ b.nodes ↔ t ∈ A ∧ t ∉ B) := by
  simpa only [mem_subTypes] using mk_of_perm (nodup_subTypes A B hA) hord hg pc

/-- commutativity lifted through the constructor; the other laws likewise from `C13_same_set` with `add_assoc_set` /
`add_idem_set` -/
theorem C13_comm (A B o₁ o₂ : List Ty) (hA : A.Nodup) (hB : B.Nodup)
    (h₁ : o₁.Perm (addTypes A B)) (h₂ : o₂.Perm (addTypes B A))
    (hg : Ty.Generic ∈ addTypes A B) (pc : ParentClosedL declared (addTypes A B)) :
    ∃ b b', mkTypeset declared isGeneric o₁ = .ok b ∧ mkTypeset declared isGeneric o₂ = .ok b' ∧
      b.root = b'.root ∧ (∀ t, t ∈ b.nodes ↔ t ∈ b'.nodes) ∧ (∀ e, e ∈ b.edges ↔ e ∈ b'.edges) := by
  have hset : ∀ t, t ∈ o₁ ↔ t ∈ o₂ := fun t => by rw [h₁.mem_iff, h₂.mem_iff]; exact add_comm_set A B t
  obtain ⟨b, b', hb, hb', hr, hr', hn, hn', he⟩ := C13_same_set o₁ o₂ (h₁.nodup_iff.mpr (nodup_addTypes A B hA hB))
    (h₂.nodup_iff.mpr (nodup_addTypes B A hB hA)) hset (h₁.mem_iff.mpr hg) (pc.of_mem_iff fun _ => h₁.mem_iff.symm)
  exact ⟨b, b', hb, hb', hr.trans hr'.symm, fun t => by rw [hn, hn']; exact hset t, he⟩

/-- in-place forms are the pure forms (`__iadd__ = __add__`, `__isub__ = __sub__`): the model has
a single definition for both, so there is nothing to prove beyond `rfl`. -/
theorem C13_inplace (A B : List Ty) : addTypes A B = addTypes A B ∧ subTypes A B = subTypes A B := ⟨rfl, rfl⟩

/-- Generic stays the root or the constructor refuses -/
theorem C13_root (ord : List Ty) (b : Built Ty) (h : mkTypeset declared isGeneric ord = .ok b) :
    b.root = Ty.Generic := by
  simp only [mkTypeset] at h
  split at h
  · cases h
  · split at h
    · cases h; rename_i hgen; exact (C14.isGeneric_iff _).mp hgen
    · cases h

/-- a relation whose source type is absent is dropped with a warning (`missing`), never an error -/
theorem C13_dropped (S : List Ty) (nd : S.Nodup) (hg : Ty.Generic ∈ S) (pc : ParentClosedL declared S) :
    ∃ b, mkTypeset declared isGeneric S = .ok b ∧
      (∀ e, e ∈ b.missing ↔ e.dst ∈ S ∧ e.src ∉ S ∧ (⟨e.src, e.inferential⟩ : RelDecl Ty) ∈ declared e.dst) ∧
      (∀ e ∈ b.missing, e ∉ b.edges) := by
  have hmiss : ∀ e, e ∈ (closedBuilt declared Ty.Generic S).missing ↔
      e.dst ∈ S ∧ e.src ∉ S ∧ (⟨e.src, e.inferential⟩ : RelDecl Ty) ∈ declared e.dst := fun e => by
    simp only [closedBuilt, List.mem_filter, mem_allDecls, Bool.not_eq_true', List.contains_eq_mem,
      decide_eq_false_iff_not]
    exact ⟨fun ⟨⟨h1, h2⟩, h3⟩ => ⟨h1, h3, h2⟩, fun ⟨h1, h3, h2⟩ => ⟨⟨h1, h2⟩, h3⟩⟩
  exact ⟨_, C14.mkTypeset_closed nd hg pc, hmiss,
    fun e hm he => ((hmiss e).mp hm).2.1 (mem_presentEdges.mp he).2.1⟩

/-- `Type + Type` builds the typeset {Generic, both types} -/
theorem C13_type_plus_type (t u : Ty) (x : Ty) :
    x ∈ typePlusType isGeneric Ty.Generic t u ↔ (x = Ty.Generic ∨ x = t ∨ x = u) := by
  cases h : (isGeneric t || isGeneric u) with
  | false => simp [typePlusType, h, mem_setUnion, or_assoc]
  | true =>
    -- one of the two is Generic already, so naming it again adds nothing
    simp only [typePlusType, h, Bool.not_true, Bool.false_eq_true, if_false]
    rcases (Bool.or_eq_true _ _).mp h with h' | h' <;> cases (C14.isGeneric_iff _).mp h' <;>
      simp [mem_setUnion, or_left_comm]

example : ∃ b, mkTypeset declared isGeneric (addTypes standardSet [Ty.Geometry]) = .ok b ∧ b.root = Ty.Generic :=
  ⟨_, C14.mkTypeset_closed (by decide) (by decide) (by decide), rfl⟩

end V.C13
