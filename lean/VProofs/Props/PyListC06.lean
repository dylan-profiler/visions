/-
  The 14 transformers of the list back end, element by element (`xformL_map`); C06 and the transformer half of C11 are read off
  it.  Only String -> Path looks at the whole sequence, once, to choose its flavour, and that by a test of the support.
-/
import VProofs.Props.PyListBag
import VProofs.Lemmas.Pointwise
namespace V.PyProps
open V V.Gen V.Py
open V.C06 (Pointwise)

inductive RelL : Ty → Ty → (Seq → R Bool) → (Seq → R Seq) → Prop
  | objectBoolean : RelL .Object .Boolean objectIsBool objectToBool
  | stringBoolean : RelL .String .Boolean stringIsBool stringToBool
  | stringComplex : RelL .String .Complex stringIsComplex stringToComplex
  | stringDatetime : RelL .String .DateTime stringIsDatetime stringToDatetime
  | stringFloat : RelL .String .Float stringIsFloat stringToFloat
  | complexFloat : RelL .Complex .Float complexIsFloat complexToFloat
  | floatInteger : RelL .Float .Integer floatIsInt floatToInt
  | datetimeDate : RelL .DateTime .Date datetimeIsDate datetimeToDate
  | stringGeometry : RelL .String .Geometry stringIsGeometry stringToGeometry
  | stringIp : RelL .String .IPAddress stringIsIp stringToIp
  | stringPath : RelL .String .Path stringIsPath stringToPath
  | stringUrl : RelL .String .URL stringIsUrl stringToUrl
  | stringUuid : RelL .String .UUID stringIsUuid stringToUuid
  | stringEmail : RelL .String .EmailAddress stringIsEmail stringToEmail

theorem RelL.xform_eq {src dst : Ty} {g : Seq → R Bool} {t : Seq → R Seq} (r : RelL src dst g t) :
    xformL src dst = some t := by
  cases r <;> rfl

-- `split` goes through the 15 alternatives of the table's `match`; `cases src <;> cases dst` would go through 24 × 24 pairs
theorem RelL.of_guard {src dst : Ty} {g : Seq → R Bool} (hg : guardL src dst = some g) : ∃ t, RelL src dst g t := by
  unfold guardL at hg
  split at hg <;> cases hg <;> exact ⟨_, by constructor⟩

theorem RelL.of_xform {src dst : Ty} {t : Seq → R Seq} (ht : xformL src dst = some t) : ∃ g, RelL src dst g t := by
  unfold xformL at ht
  split at ht <;> cases ht <;> exact ⟨_, by constructor⟩

theorem RelL.of {src dst : Ty} {g : Seq → R Bool} {t : Seq → R Seq} (hg : guardL src dst = some g)
    (ht : xformL src dst = some t) : RelL src dst g t := by
  obtain ⟨t', r⟩ := RelL.of_guard hg
  cases r.xform_eq.symm.trans ht
  exact r

/-- what each relation's transformer does to ONE element (`win`: the flavour String -> Path chose for the sequence) -/
def elemDecode (src dst : Ty) (win : Bool) (x y : Elem) : Prop :=
  match src, dst with
  | .Object, .Boolean => y = if x.isNone then Elem.ofBool false else x
  | .String, .Boolean => (x.isStr = true ∧ ∃ o, x.lowerTF = .ok o ∧ y = Elem.ofBool (o == some true)) ∨ (x.isStr = false ∧ y = x)
  | .String, .Float => ∃ v, x.flo = .ok v ∧ y = Elem.ofFloat v
  | .String, .Complex => ∃ p, x.cplx = .ok p ∧ y = Elem.ofComplex p.1 p.2
  | .String, .DateTime => ∃ m, x.strp = .ok m ∧ y = Elem.ofDatetime m
  | .Complex, .Float => ∃ re im, x.cval = some (re, im) ∧ y = Elem.ofFloat re
  | .Float, .Integer => ∃ z, intOf x = .ok z ∧ y = Elem.ofInt z
  | .DateTime, .Date => x.isDatetime = true ∧ y = Elem.ofDate
  | .String, .UUID => x.uuid = .ok () ∧ y = Elem.ofUUID
  | .String, .IPAddress => x.ip = .ok () ∧ y = Elem.ofIP
  | .String, .URL => (∃ b, x.url = .ok b) ∧ y = Elem.ofUrl
  | .String, .EmailAddress => (∃ b, x.email = .ok b) ∧ y = Elem.ofEmail
  | .String, .Geometry => (∃ b, x.wkt = .ok b) ∧ y = Elem.ofGeom
  | .String, .Path => ∃ a, (if win then x.winAbs else x.posixAbs) = .ok a ∧ y = Elem.ofPurePath a
  | _, _ => False

theorem stringToPath_of {s : Seq} {win : Bool} (hu : usesWindows s = .ok win) :
    stringToPath s = mapT (fun x => if win then x.winAbs else x.posixAbs) Elem.ofPurePath s := by
  rw [stringToPath, hu]
  cases win <;> rfl

/-- L5, and the transformer half of L4: where a transformer returns, it is `List.map` of one element function `h`, there and on
all sequences with that support -/
theorem xformL_map {src dst : Ty} {t : Seq → R Seq} (ht : xformL src dst = some t) {s r : Seq} (hr : t s = .ok r) :
    ∃ (win : Bool) (h : Elem → Elem), (∀ x ∈ s, elemDecode src dst win x (h x)) ∧ r = s.map h ∧
      ∀ s', SameSet s s' → t s' = .ok (s'.map h) := by
  obtain ⟨g, rel⟩ := RelL.of_xform ht
  cases rel
  case objectBoolean => exact ⟨false, _, fun _ _ => rfl, (Except.ok.inj hr).symm, fun _ _ => rfl⟩
  case stringBoolean =>
    refine ⟨false, mapT_decode hr fun x _ a h => ?_⟩
    by_cases hs : x.isStr = true
    · simp only [hs, if_true] at h
      cases hl : x.lowerTF with
      | ok o =>
        rw [hl] at h
        cases h
        exact .inl ⟨hs, o, hl, rfl⟩
      | raises c => rw [hl] at h; cases h
    · simp only [hs] at h
      cases h; exact .inr ⟨by simpa using hs, rfl⟩
  case stringComplex | stringDatetime | stringFloat | floatInteger => exact ⟨false, mapT_decode hr fun _ _ a h => ⟨a, h, rfl⟩⟩
  case stringIp | stringUuid => exact ⟨false, mapT_decode hr fun _ _ _ h => ⟨h, rfl⟩⟩
  case stringGeometry | stringUrl | stringEmail => exact ⟨false, mapT_decode hr fun _ _ a h => ⟨⟨a, h⟩, rfl⟩⟩
  case complexFloat =>
    refine ⟨false, mapT_decode hr fun x _ a h => ?_⟩
    cases hv : x.cval with
    | none => rw [hv] at h; cases h
    | some p =>
      rw [hv] at h
      cases h
      exact ⟨_, p.2, hv, rfl⟩
  case datetimeDate =>
    refine ⟨false, mapT_decode hr fun x _ a h => ⟨?_, rfl⟩⟩
    by_cases hd : x.isDatetime = true
    · exact hd
    · simp only [hd] at h; cases h
  case stringPath =>
    cases hu : usesWindows s with
    | raises c => rw [stringToPath, hu] at hr; cases hr
    | ok win =>
      rw [stringToPath_of hu] at hr
      obtain ⟨h, hd, hm, H⟩ := mapT_decode hr (D := elemDecode .String .Path win) fun _ _ a h => ⟨a, h, rfl⟩
      exact ⟨win, h, hd, hm, fun s' hp => (stringToPath_of (usesWindows_ss hp hu)).trans (H s' hp)⟩

/-- **C06 (shape) for the list back end**: all 14 transformers keep the length -/
theorem C06_length_list (src dst : Ty) (t : Seq → R Seq) (ht : xformL src dst = some t) (s s' : Seq) (hx : t s = .ok s') :
    s'.length = s.length := by
  obtain ⟨_, h, _, rfl, _⟩ := xformL_map ht hx
  exact List.length_map h

theorem xform_perm_list (src dst : Ty) (t : Seq → R Seq) (ht : xformL src dst = some t) (s s' r : Seq) (hp : s.Perm s')
    (hr : t s = .ok r) : ∃ r', t s' = .ok r' ∧ r.Perm r' := by
  obtain ⟨_, h, _, rfl, H⟩ := xformL_map ht hr
  exact ⟨_, H s' (.of_perm hp), hp.map h⟩

theorem xform_ss_list (src dst : Ty) (t : Seq → R Seq) (ht : xformL src dst = some t) (s s' r : Seq) (hp : SameSet s s')
    (hr : t s = .ok r) : ∃ r', t s' = .ok r' ∧ SameSet r r' := by
  obtain ⟨_, h, _, rfl, H⟩ := xformL_map ht hr
  exact ⟨_, H s' hp, map_congr_mem hp h⟩

theorem xform_repeat_list (k : Nat) (src dst : Ty) (t : Seq → R Seq) (ht : xformL src dst = some t) (s r : Seq)
    (hr : t s = .ok r) : t (repeatSeq s k) = .ok (repeatSeq r k) := by
  obtain ⟨_, h, _, rfl, H⟩ := xformL_map ht hr
  rw [H _ (sameSet_repeat s k)]
  simp only [repeatSeq, List.map_flatten, List.map_replicate]

theorem mapT_pointwise {α : Type} {f : Elem → Outcome α} {g : α → Elem} {s r : Seq} (h : mapT f g s = .ok r) :
    Pointwise (fun x y => ∃ a, f x = .ok a ∧ y = g a) s r := by
  obtain ⟨e, he, rfl, _⟩ := mapT_decode h (D := fun x y => ∃ a, f x = .ok a ∧ y = g a) fun _ _ a ha => ⟨a, ha, rfl⟩
  exact .map e he

/-- **C06 (element-wise decoding) for the list back end** -/
theorem C06_pointwise_list (src dst : Ty) (t : Seq → R Seq) (ht : xformL src dst = some t) (s r : Seq) (hr : t s = .ok r) :
    ∃ win, Pointwise (elemDecode src dst win) s r := by
  obtain ⟨win, e, he, rfl, _⟩ := xformL_map ht hr
  exact ⟨win, .map e he⟩

end V.PyProps
