/-
  L3, and L4 / L6 for the tests, on the list back end.  Sibling exclusivity (L2) fails for lists by design (C02 / C16 exclude
  them), so the global statement of C04 is checked by oracle on lists.
-/
import VProofs.Props.PyListC06
namespace V.PyProps
open V V.Gen V.Py
open V.C06 (Pointwise)

theorem stringIsPath_true {s : Seq} (ha : stringIsPath s = .ok true) :
    ∃ win, usesWindows s = .ok win ∧ ∀ x ∈ s, (if win then x.winAbs else x.posixAbs) = .ok true := by
  unfold stringIsPath at ha
  cases hu : usesWindows s with
  | raises c =>
    rw [hu] at ha
    dsimp only at ha
    split at ha <;> cases ha
  | ok win =>
    rw [hu] at ha
    refine ⟨win, rfl, fun x hx => eq_of_isOkTrue ?_⟩
    cases win
    · obtain ⟨hok, hK⟩ := parseThen_true ha
      exact List.all_eq_true.mp ((oks_all_id hok).symm.trans (Except.ok.inj hK)) x hx
    · exact List.all_eq_true.mp (usesWindows_ok.mp hu).2.symm x hx

/-- **C03, local obligation L3 for the list back end**: what an accepting relation casts is in the target type — for EVERY
sequence, whatever the parsers answered -/
theorem C03_lands_list (src dst : Ty) (g : Seq → R Bool) (t : Seq → R Seq) (hg : guardL src dst = some g)
    (ht : xformL src dst = some t) (s s' : Seq) (hc : containsL src s = true) (ha : g s = .ok true) (hx : t s = .ok s') :
    containsL dst s' = true := by
  -- every source type of a relation demands a non-empty sequence
  have hne : s.isEmpty = false := by
    cases RelL.of hg ht <;> unfold containsL at hc <;> exact (notEmpty_iff.mp hc).1
  cases RelL.of hg ht <;> unfold containsL
  case stringComplex | stringDatetime | stringFloat | complexFloat | floatInteger =>
    exact notEmpty_iff.mpr ⟨(mapT_isEmpty hx).trans hne, mapT_all hx fun _ _ _ _ => rfl⟩
  case datetimeDate | stringGeometry | stringIp | stringUrl | stringUuid | stringEmail =>
    exact mapT_all hx fun _ _ _ _ => rfl
  case objectBoolean =>
    cases hx
    have hb := List.all_eq_true.mp (notEmpty_iff.mp (Except.ok.inj ha)).2
    refine notEmpty_iff.mpr ⟨List.isEmpty_map.trans hne, ?_⟩
    simp only [handleNone, List.all_eq_true, List.mem_filter, List.mem_map]
    rintro _ ⟨⟨x, hx, rfl⟩, hn⟩
    by_cases hxn : x.isNone = true
    · simp only [hxn, if_true]; rfl
    · simp only [hxn] at hn ⊢
      exact hb x (List.mem_filter.mpr ⟨hx, hn⟩)
  case stringBoolean =>
    -- a value of a String that is not a `str` is `None`, and stays
    have hstr := List.all_eq_true.mp (notEmpty_iff.mp hc).2
    obtain ⟨_, h, hd, rfl, _⟩ := xformL_map ht hx
    refine notEmpty_iff.mpr ⟨List.isEmpty_map.trans hne, ?_⟩
    simp only [handleNone, List.all_filter, List.all_map, List.all_eq_true, Function.comp]
    intro x hxs
    rcases hd x hxs with ⟨_, o, _, e⟩ | ⟨hns, e⟩
    · rw [e]; rfl
    · rw [e]
      cases hn : x.isNone with
      | true => rfl
      | false =>
        have := hstr x (List.mem_filter.mpr ⟨hxs, by rw [hn]; rfl⟩)
        rw [hns] at this
        cases this
  case stringPath =>
    obtain ⟨win, hu, hall⟩ := stringIsPath_true ha
    rw [stringToPath_of hu] at hx
    exact mapT_all hx fun x hxs a h => by cases (hall x hxs).symm.trans h; rfl

/-- a `str` that parses as the float `v`; `z`: it starts with '0' -/
def sNum (v : FloatV) (z : Bool) : Elem :=
  { Elem.blank with isStr := true, lowerTF := .ok none, flo := .ok v, firstZero := .ok z, cplx := .ok (v, .fin 0 0),
                    strp := .raises "ValueError", url := .ok false, uuid := .raises "ValueError", email := .raises "TypeError",
                    wkt := .raises "GEOSException", winAbs := .ok false, posixAbs := .ok false }
-- `['1.5', '2']` is a String, and String -> Float casts it to `(1.5, 2.0)`
example : containsL .String [sNum (.fin 3 1) false, sNum (.fin 2 0) false] = true ∧
    (stringToFloat [sNum (.fin 3 1) false, sNum (.fin 2 0) false]).toOption = some [Elem.ofFloat (.fin 3 1), Elem.ofFloat (.fin 2 0)] := by
  constructor <;> rfl

example : ∃ win, Pointwise (elemDecode .String .Float win) [sNum (.fin 3 1) false, sNum (.fin 2 0) false]
    [Elem.ofFloat (.fin 3 1), Elem.ofFloat (.fin 2 0)] :=
  C06_pointwise_list .String .Float stringToFloat rfl _ _ rfl

/-- L6 and L4 for the tests at once: on the sequences of its source type that pass `convCaughtL`, totality (C09) is
`g s = .ok (G s)`; invariance under reordering and repetition (C11) is `G s = G s'`.  Each case is the closed form of the test's
shape, with the `ElemOk` field that says the exception of that conversion is caught. -/
theorem guardL_closed {src dst : Ty} {g : Seq → R Bool} (hg : guardL src dst = some g) :
    Closed (fun s => containsL src s = true ∧ convCaughtL s = true) g := by
  have ok : ∀ s, containsL src s = true ∧ convCaughtL s = true → ∀ x ∈ s, ElemOk x :=
    fun s hs x hx => elemOk_sound (elemOk_of hs.2 x hx)
  obtain ⟨t, rel⟩ := RelL.of_guard hg
  cases rel
  case objectBoolean => exact ⟨_, containsL_ss .Boolean, fun _ _ => rfl⟩
  case stringBoolean =>
    refine .allO_dropNone fun s hs x hx => ?_
    have hstr : x.isStr = true := List.all_eq_true.mp (notEmpty_iff.mp hs.1).2 x hx
    cases hl : x.lowerTF with
    | ok o => rfl
    | raises c => rw [(ok s hs x (List.mem_filter.mp hx).1).lowerTF c hl] at hstr; cases hstr
  -- in the next two cases the value handed to `no_leading_zeros` for an element is `okOr … fun _ => .nan`: the `.nan` stands
  -- where the conversion raises, and there the value is never taken
  case stringComplex =>
    exact .parseNlz (okOr (·.cplx) (·.1) fun _ => .nan) (fun _ h => oks_map _ _ h) (fun s hs x hx => (ok s hs x hx).cplx)
      fun s hs x hx => (ok s hs x hx).firstZero.append ["AttributeError"]
  case stringFloat =>
    exact .parseNlz (okOr (·.flo) id fun _ => .nan) (fun _ h => by rw [← oks_map id _ h, List.map_id])
      (fun s hs x hx => (ok s hs x hx).flo) fun s hs x hx => (ok s hs x hx).firstZero
  case stringDatetime => exact .all_map fun s hs => parses_closed _ _ s fun x hx => (ok s hs x hx).strp
  case stringIp => exact .all_map fun s hs => parses_closed _ _ s fun x hx => (ok s hs x hx).ip
  case stringUuid => exact .all_map fun s hs => parses_closed _ _ s fun x hx => (ok s hs x hx).uuid
  case stringUrl => exact .all_map fun s hs => allAfterParse_closed _ _ s fun x hx => (ok s hs x hx).url
  case stringEmail => exact .all_map fun s hs => allAfterParse_closed _ _ s fun x hx => (ok s hs x hx).email
  case stringGeometry => exact .all_map fun s hs => tryB_allO_closed _ _ (caught_map fun x hx => (ok s hs x hx).wkt)
  case datetimeDate => exact .all_map fun s hs => tryB_allO_closed _ _ (caught_map fun x hx => (ok s hs x hx).midnight)
  case floatInteger => exact .all_map fun s hs => tryB_allO_closed _ _ (caught_map fun x hx => (ok s hs x hx).intEq)
  case complexFloat =>
    -- every element of a Complex sequence has a value
    refine .all_map fun s hs => tryB_allO_closed _ _ (caught_map fun x hx c hc => ?_)
    have hcx : x.isComplex = true := by
      have := hs.1; unfold containsL at this
      exact List.all_eq_true.mp (notEmpty_iff.mp this).2 x hx
    have := (ok s hs x hx).cval hcx
    cases hv : x.cval with
    | none => rw [hv] at this; cases this
    | some p => rw [hv] at hc; cases hc
  case stringPath =>
    exact ⟨_, fun _ _ hp => by simp only [all_congr_mem hp, all_congr_mem (map_congr_mem hp _)],
      fun s hs => stringIsPath_closed (fun x hx => (ok s hs x hx).winAbs) fun x hx => (ok s hs x hx).posixAbs⟩

/-- **C09 for the list back end's relation tests**: every one of the 14 tests answers (never raises) on every sequence of
its source type whose element conversions raise caught classes only (`convCaughtL`, executable) -/
theorem C09_tests_total_list (src dst : Ty) (g : Seq → R Bool) (hg : guardL src dst = some g) (s : Seq)
    (hc : containsL src s = true) (h : convCaughtL s = true) : ∃ b, g s = .ok b :=
  (guardL_closed hg).total ⟨hc, h⟩

theorem guard_perm_list (src dst : Ty) (g : Seq → R Bool) (hg : guardL src dst = some g) (s s' : Seq)
    (hc : containsL src s = true) (hk : convCaughtL s = true) (hp : SameSet s s') : g s = g s' :=
  (guardL_closed hg).congr ⟨hc, hk⟩ ⟨containsL_ss src s s' hp ▸ hc, convCaughtL_ss hp ▸ hk⟩ hp

end V.PyProps
