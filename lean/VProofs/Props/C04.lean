/-
  C04 — Inference converges: inferring or casting again changes nothing.
-/
import VProofs.Props.C03
import VProofs.Lemmas.Backend
namespace V.C04
open V

variable {T D : Type}

/-- on the inferred datum every hop is an identity relation: it comes back itself, at the same type -/
theorem C04_fixpoint (ts : TS T D) {I : D → Prop} (wf : ts.WF I) (root : T) (N : T → Prop) (hN : Nodes ts N root)
    (f : Nat) (hf : ts.h root < f) (x : D) (hI : I x) (hx : ts.contains root x = true) :
    let res := ptraverse ts.succ f root x
    (ptraverse ts.succ f root res.1).1 = res.1 ∧
    plast root (ptraverse ts.succ f root res.1).2 = plast root res.2 := by
  intro res
  have ⟨hc, hstop, hI'⟩ := infer_lands ts wf f root x hf hI hx
  exact follows_chain_stop ts wf ts.succ (fun _ _ h => (mem_idSucc.mp h).1) (fun _ => .refl _) hI' hc hstop
    (hN.idpath _ (plast_in_nodes ts.succ N hN.step f root x hN.rootIn)) f hf

end V.C04

namespace V.Backend
variable {T D : Type}

/-- soundness and convergence (C03, C04), stated on what the full engine returned -/
theorem sound_of_ok [DecidableEq T] (B : Backend T D) (h : T → Nat) {b : Built T} {I : D → Prop}
    (wf : (B.ts h b).WF I) {N : T → Prop} (hN : Nodes (B.ts h b) N b.root)
    {f : Nat} (hf : h b.root < f) {x d : D} {p : List T} (hI : I x) (hx : B.contains b.root x = true)
    (hv : traverse (B.graph b) f b.root x () [] = .ok (d, p, ())) :
    B.contains (plast b.root p) d = true ∧
    plast b.root (ptraverse (B.ts h b).idSucc f b.root d).2 = plast b.root p ∧
    (ptraverse (B.ts h b).succ f b.root d).1 = d ∧
    plast b.root (ptraverse (B.ts h b).succ f b.root d).2 = plast b.root p := by
  have h3 := C03.C03_infer_sound _ wf b.root N hN f hf x hI hx
  have h4 := C04.C04_fixpoint _ wf b.root N hN f hf x hI hx
  simp only [B.infer_eq h b f b.root x d p hv] at h3 h4
  exact ⟨h3.1, h3.2.2, h4.1, h4.2⟩

end V.Backend
