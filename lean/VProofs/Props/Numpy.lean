/-
  The engine theorems for the numpy model, at the typeset `mkTypeset` returns for EVERY duplicate-free, parent-closed list `S` of
  types of the relation table that contains Generic (any supply order; the numpy back end registers the relations of StandardSet).
  All but C01 are about EVERY abstract array `c` satisfying `Good o c`, i.e. the executable check `goodB o c = true`.

  `goodB` is evaluated by the driver on α(array) for every generated input (CPython / numpy class facts about the elements,
  `nan_mask` facts, exclusivity of the boolean keys and the number parsers, the facts about `pd.to_datetime` on this array —
  false exactly on the digit strings of known finding F09n —, and that accepted transformers do not raise).
-/
import VProofs.Obligations.NumpyWF
import VProofs.Props.C16
import VProofs.Props.C04
import VProofs.Props.C14
import VProofs.Props.C15
namespace V.NumpyProps
open V V.Gen V.Np

/-- C01 for the numpy model of a typeset whose edges increase the rank: needs L0 only -/
theorem C01_numpy (o : NpOracle) (b : Built Ty) (hrank : ∀ e ∈ b.edges, rank e.src < rank e.dst) (c : NArr)
    (hroot : containsB b.root c = true) :
    let res := ptraverse (numpyTS o b).idSucc 64 b.root c
    res.1 = c ∧ res.2.head? = some b.root ∧ (∀ t ∈ res.2, containsB t c = true) ∧
    Linked (fun a b' => ∃ r ∈ (numpyTS o b).idSucc a, r.dst = b') res.2 ∧
    (∀ r ∈ (numpyTS o b).idSucc (plast b.root res.2), containsB r.dst c = false) :=
  detect_sound_most_specific (numpyTS o b) (numpyTS_L0 o b) ((backend o).ts_height _ b (Pd.height_of_rank hrank)) b.root 64 (Pd.fuel_ok _) c hroot

theorem closed_wf (o : NpOracle) {S : List Ty} (nd : S.Nodup) (hsub : ∀ t ∈ S, t ∈ completeSet) :
    (numpyTS o (closedBuilt declared Ty.Generic S)).WF (Good o) :=
  numpy_WF o _ (Pd.closed_fromTable nd hsub)

/-- the cast array is contained in the inferred type, and detecting it gives exactly the inferred type, unchanged -/
theorem C03_numpy (o : NpOracle) (S : List Ty) (nd : S.Nodup) (hg : Ty.Generic ∈ S)
    (pc : ParentClosedL declared S) (hsub : ∀ t ∈ S, t ∈ completeSet) (c : NArr) (hG : Good o c) :
    ∃ b, mkTypeset declared isGeneric S = .ok b ∧
      let res := ptraverse (numpyTS o b).succ 64 b.root c
      let t := plast b.root res.2
      containsB t res.1 = true ∧
      (ptraverse (numpyTS o b).idSucc 64 b.root res.1).1 = res.1 ∧
      plast b.root (ptraverse (numpyTS o b).idSucc 64 b.root res.1).2 = t :=
  ⟨_, C14.mkTypeset_closed nd hg pc,
    C03.C03_infer_sound _ (closed_wf o nd hsub) Ty.Generic _ (Pd.closed_nodes (backend o) _ hg pc) 64 (Pd.fuel_ok _) c hG rfl⟩

/-- inferring the cast array again returns the same array and the same type -/
theorem C04_numpy (o : NpOracle) (S : List Ty) (nd : S.Nodup) (hg : Ty.Generic ∈ S)
    (pc : ParentClosedL declared S) (hsub : ∀ t ∈ S, t ∈ completeSet) (c : NArr) (hG : Good o c) :
    ∃ b, mkTypeset declared isGeneric S = .ok b ∧
      let res := ptraverse (numpyTS o b).succ 64 b.root c
      (ptraverse (numpyTS o b).succ 64 b.root res.1).1 = res.1 ∧
      plast b.root (ptraverse (numpyTS o b).succ 64 b.root res.1).2 = plast b.root res.2 :=
  ⟨_, C14.mkTypeset_closed nd hg pc,
    C04.C04_fixpoint _ (closed_wf o nd hsub) Ty.Generic _ (Pd.closed_nodes (backend o) _ hg pc) 64 (Pd.fuel_ok _) c hG rfl⟩

/-- the types of `S` that contain `c` are exactly the detection path of `c` -/
theorem C16_numpy (o : NpOracle) (S : List Ty) (nd : S.Nodup) (hg : Ty.Generic ∈ S)
    (pc : ParentClosedL declared S) (hsub : ∀ t ∈ S, t ∈ completeSet) (c : NArr) (hG : Good o c)
    (t : Ty) (ht : t ∈ S) :
    ∃ b, mkTypeset declared isGeneric S = .ok b ∧
      (containsB t c = true ↔ t ∈ (ptraverse (numpyTS o b).idSucc 64 b.root c).2) :=
  ⟨_, C14.mkTypeset_closed nd hg pc,
    C16.C16_chain _ (closed_wf o nd hsub) Ty.Generic 64 (Pd.fuel_ok _) c hG rfl t ((Pd.closed_nodes (backend o) _ hg pc).idpath t ht)⟩

/-- another supply order `S'` of the same types gives the same inference path and the same cast array -/
theorem C02_numpy (o : NpOracle) (S S' : List Ty) (hp : S.Perm S') (nd : S.Nodup)
    (hg : Ty.Generic ∈ S) (pc : ParentClosedL declared S) (hsub : ∀ t ∈ S, t ∈ completeSet)
    (c : NArr) (hG : Good o c) :
    ∃ b b', mkTypeset declared isGeneric S = .ok b ∧ mkTypeset declared isGeneric S' = .ok b' ∧
      ptraverse (numpyTS o b).succ 64 b.root c = ptraverse (numpyTS o b').succ 64 b'.root c :=
  ⟨_, _, C14.mkTypeset_closed nd hg pc,
    C14.mkTypeset_closed_perm hp nd hg pc,
    walk_eq_of_perm_on _ (closed_wf o nd hsub) (fun _ => True) (fun _ _ _ _ => trivial) _
      (fun n _ => (backend o).succ_perm _ (presentEdges_perm hp) n) 64 Ty.Generic c trivial hG rfl⟩

/-- C03 / C04 on what the driver evaluates: whenever the full-engine traversal returns normally, its result array is
contained in its result type and is a fixpoint -/
theorem C03_numpy_model (o : NpOracle) (S : List Ty) (nd : S.Nodup) (hg : Ty.Generic ∈ S)
    (pc : ParentClosedL declared S) (hsub : ∀ t ∈ S, t ∈ completeSet) (c : NArr) (hG : Good o c) :
    ∃ b, mkTypeset declared isGeneric S = .ok b ∧
      ∀ d p, traverse (graphOf o b) 64 b.root c () [] = .ok (d, p, ()) →
        containsB (plast b.root p) d = true ∧
        ptraverse (numpyTS o b).succ 64 b.root d = (d, (ptraverse (numpyTS o b).succ 64 b.root d).2) ∧
        plast b.root (ptraverse (numpyTS o b).succ 64 b.root d).2 = plast b.root p :=
  ⟨_, C14.mkTypeset_closed nd hg pc, fun _ _ h =>
    have ⟨h1, _, h3, h4⟩ :=
      (backend o).sound_of_ok _ (closed_wf o nd hsub) (Pd.closed_nodes (backend o) _ hg pc)
        (Pd.fuel_ok _) hG rfl h
    ⟨h1, Prod.ext h3 rfl, h4⟩⟩

theorem succ_restrict_perm (o : NpOracle) (A B : List Ty) (hAB : ∀ t ∈ A, t ∈ B) (ndA : A.Nodup) (ndB : B.Nodup)
    (bA bB : Built Ty) (eA : bA.edges = presentEdges declared A) (eB : bB.edges = presentEdges declared B)
    (n : Ty) (hn : n ∈ A) :
    (((numpyTS o bB).restrict (fun t => decide (t ∈ A))).succ n).Perm ((numpyTS o bA).succ n) :=
  (backend o).restrict_perm _ C14.tableWF.srcNodup hAB ndA ndB eA eB hn

/-- C15, for typesets built from supply lists `A ⊆ B` and every `Good` array: `detect_A` is the deepest type of `B`'s
detection path that belongs to `A`; `B`'s inference walk is `A`'s, continued from `A`'s answer and `A`'s cast data (so
`infer_B` is reachable from `infer_A`) -/
theorem C15_numpy (o : NpOracle) (A B : List Ty) (hAB : ∀ t ∈ A, t ∈ B) (ndA : A.Nodup) (ndB : B.Nodup)
    (hgA : Ty.Generic ∈ A) (pcA : ParentClosedL declared A) (pcB : ParentClosedL declared B)
    (hsubB : ∀ t ∈ B, t ∈ completeSet) (c : NArr) (hG : Good o c) :
    ∃ bA bB, mkTypeset declared isGeneric A = .ok bA ∧ mkTypeset declared isGeneric B = .ok bB ∧
      (let pA := (ptraverse (numpyTS o bA).idSucc 64 bA.root c).2
       let pB := (ptraverse (numpyTS o bB).idSucc 64 bB.root c).2
       pA <+: pB ∧ (∀ t ∈ pB, t ∈ A → t ∈ pA) ∧ (∀ t ∈ pA, t ∈ A)) ∧
      (let rA := ptraverse (numpyTS o bA).succ 64 bA.root c
       let rB := ptraverse (numpyTS o bB).succ 64 bB.root c
       rA.2 <+: rB.2 ∧
       ptraverse (numpyTS o bB).succ 64 (plast bA.root rA.2) rA.1 = (rB.1, rB.2.drop (rA.2.length - 1))) := by
  refine ⟨_, _, C14.mkTypeset_closed ndA hgA pcA, C14.mkTypeset_closed ndB (hAB _ hgA) pcB, ?_⟩
  have := C15.refines_of_perm (numpyTS o (closedBuilt declared Ty.Generic B)) (numpyTS o (closedBuilt declared Ty.Generic A))
    (closed_wf o ndB hsubB) (fun t => decide (t ∈ A))
    ((backend o).parentClosed _ pcA (Pd.closed_fromTable ndB hsubB).decl)
    (fun n hn => succ_restrict_perm o A B hAB ndA ndB _ _ rfl rfl n (of_decide_eq_true hn))
    Ty.Generic 64 (Pd.fuel_ok _) c hG rfl (decide_eq_true hgA)
  simp only [decide_eq_true_eq] at this
  exact this

/-- C01 for every constructible typeset and EVERY array (no hypothesis on the array at all): detection is sound and most
specific -/
theorem C01_numpy_built (o : NpOracle) (S : List Ty) (nd : S.Nodup) (hg : Ty.Generic ∈ S)
    (pc : ParentClosedL declared S) (hsub : ∀ t ∈ S, t ∈ completeSet) (c : NArr) :
    ∃ b, mkTypeset declared isGeneric S = .ok b ∧
      let res := ptraverse (numpyTS o b).idSucc 64 b.root c
      res.1 = c ∧ res.2.head? = some Ty.Generic ∧ (∀ t ∈ res.2, containsB t c = true) ∧
      Linked (fun a b' => ∃ r ∈ (numpyTS o b).idSucc a, r.dst = b') res.2 ∧
      (∀ r ∈ (numpyTS o b).idSucc (plast b.root res.2), containsB r.dst c = false) :=
  ⟨_, C14.mkTypeset_closed nd hg pc, C01_numpy o _ (Pd.closed_fromTable nd hsub).rank c rfl⟩

def o0 : NpOracle := { dtMasked := fun _ => .raises "ValueError", dtWhole := fun _ => .raises "ValueError" }
/-- complex128 array [1+0j, 2+0j] -/
def az : NArr := { kind := .c, elems := [NElem.ofComplex (.fin 1 0) (.fin 0 0), NElem.ofComplex (.fin 2 0) (.fin 0 0)] }
/-- float64 array [1.5, nan] -/
def af : NArr := { kind := .f, elems := [NElem.ofFloat (.fin 3 1), NElem.ofFloat .nan] }

theorem good_az : Good o0 az := by show goodB o0 az = true; decide +kernel
theorem good_af : Good o0 af := by show goodB o0 af = true; decide +kernel

example : ∃ b, mkTypeset declared isGeneric standardSet = .ok b ∧
    containsB (plast b.root (ptraverse (numpyTS o0 b).succ 64 b.root az).2) (ptraverse (numpyTS o0 b).succ 64 b.root az).1 = true := by
  obtain ⟨b, hb, h⟩ := C03_numpy o0 standardSet C14.standard_ok.1 C14.standard_ok.2.1 C14.standard_ok.2.2
    (fun t ht => C14.C14_nested.2 t (C14.C14_nested.1 t ht)) az good_az
  exact ⟨b, hb, h.1⟩

example : (match mkTypeset declared isGeneric standardSet with
    | .ok b => some ((ptraverse (numpyTS o0 b).succ 64 b.root az).2, (ptraverse (numpyTS o0 b).succ 64 b.root af).2)
    | .error _ => none) = some ([.Generic, .Complex, .Float, .Integer], [.Generic, .Float]) := by
  decide +kernel

end V.NumpyProps
