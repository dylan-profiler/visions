/-
  For EVERY duplicate-free, parent-closed list `S` of the 22 types of `completeSet` that
  contains Generic (any supply order), and EVERY abstract column `c` satisfying `Good o c`:

    C03_pandas   the cast column is contained in the inferred type, and detecting it gives exactly the inferred type, unchanged;
    C04_pandas   inferring the cast column again returns the same column and the same type;
    C16_pandas   the types of `S` that contain `c` are exactly the detection path of `c`;
    C02_pandas   another supply order `S'` of the same types gives the same inference path and the same cast column;
    C15_pandas   for `A ⊆ B` the walks under `A` are prefixes of those under `B` (`succ_restrict_perm`: restricting `B`'s
                 typeset to `A` gives `A`'s, up to the order of the relations).

  Only hypothesis: `Good o c` on the INPUT column (named facts about CPython classes, `isna`, the element
  parsers and `pd.to_datetime`, and exclusion of the known-finding inputs — see PandasWF).  It is
  executable (`goodB`, sound by `goodB_sound`): the driver evaluates it on α(series) for every generated
  input, so the harness knows for which real inputs the theorems apply.  Closure of `Good` under the 14
  transformers is proved (`outputs_good`), so nothing is assumed about intermediate columns.

  The same on what the driver evaluates, the full engine: `C03_pandas_model` (whenever it returns), and
  `infer_pandas_complete` (it does return, under `goodB` and `guardsOkB`, with a sound and convergent answer).
  `C01_pandas_built` needs no hypothesis on the column.
-/
import VProofs.Lemmas.PandasTS
import VProofs.Obligations.PandasGoodB
import VProofs.Obligations.PandasTotal
import VProofs.Props.C02
import VProofs.Props.C16
import VProofs.Props.C04
import VProofs.Props.C14
import VProofs.Props.C01
import VProofs.Props.C15
namespace V.PandasProps
open V V.Gen V.Pd

theorem closed_wf (o : ColOracle) {S : List Ty} (nd : S.Nodup) (hsub : ∀ t ∈ S, t ∈ completeSet) :
    (pandasTS o (closedBuilt declared Ty.Generic S)).WF (Good o) :=
  pandas_WF' o _ (closed_fromTable nd hsub)

theorem C03_pandas (o : ColOracle) (S : List Ty) (nd : S.Nodup) (hg : Ty.Generic ∈ S)
    (pc : ParentClosedL declared S) (hsub : ∀ t ∈ S, t ∈ completeSet) (c : Column) (hG : Good o c) :
    ∃ b, mkTypeset declared isGeneric S = .ok b ∧
      let res := ptraverse (pandasTS o b).succ 64 b.root c
      let t := plast b.root res.2
      containsB t res.1 = true ∧
      (ptraverse (pandasTS o b).idSucc 64 b.root res.1).1 = res.1 ∧
      plast b.root (ptraverse (pandasTS o b).idSucc 64 b.root res.1).2 = t :=
  ⟨_, C14.mkTypeset_closed nd hg pc,
    C03.C03_infer_sound _ (closed_wf o nd hsub) Ty.Generic _ (closed_nodes (backend o) _ hg pc) 64 (fuel_ok _) c hG rfl⟩

theorem C04_pandas (o : ColOracle) (S : List Ty) (nd : S.Nodup) (hg : Ty.Generic ∈ S)
    (pc : ParentClosedL declared S) (hsub : ∀ t ∈ S, t ∈ completeSet) (c : Column) (hG : Good o c) :
    ∃ b, mkTypeset declared isGeneric S = .ok b ∧
      let res := ptraverse (pandasTS o b).succ 64 b.root c
      (ptraverse (pandasTS o b).succ 64 b.root res.1).1 = res.1 ∧
      plast b.root (ptraverse (pandasTS o b).succ 64 b.root res.1).2 = plast b.root res.2 :=
  ⟨_, C14.mkTypeset_closed nd hg pc,
    C04.C04_fixpoint _ (closed_wf o nd hsub) Ty.Generic _ (closed_nodes (backend o) _ hg pc) 64 (fuel_ok _) c hG rfl⟩

theorem C16_pandas (o : ColOracle) (S : List Ty) (nd : S.Nodup) (hg : Ty.Generic ∈ S)
    (pc : ParentClosedL declared S) (hsub : ∀ t ∈ S, t ∈ completeSet) (c : Column) (hG : Good o c)
    (t : Ty) (ht : t ∈ S) :
    ∃ b, mkTypeset declared isGeneric S = .ok b ∧
      (containsB t c = true ↔ t ∈ (ptraverse (pandasTS o b).idSucc 64 b.root c).2) :=
  ⟨_, C14.mkTypeset_closed nd hg pc,
    C16.C16_chain _ (closed_wf o nd hsub) Ty.Generic 64 (fuel_ok _) c hG rfl t
      ((closed_nodes (backend o) _ hg pc).idpath t ht)⟩

theorem C02_pandas (o : ColOracle) (S S' : List Ty) (hp : S.Perm S') (nd : S.Nodup)
    (hg : Ty.Generic ∈ S) (pc : ParentClosedL declared S) (hsub : ∀ t ∈ S, t ∈ completeSet)
    (c : Column) (hG : Good o c) :
    ∃ b b', mkTypeset declared isGeneric S = .ok b ∧ mkTypeset declared isGeneric S' = .ok b' ∧
      ptraverse (pandasTS o b).succ 64 b.root c = ptraverse (pandasTS o b').succ 64 b'.root c :=
  ⟨_, _, C14.mkTypeset_closed nd hg pc,
    C14.mkTypeset_closed_perm hp nd hg pc,
    C02.C02_order_indep _ (closed_wf o nd hsub) _
      ((backend o).succ_perm _ (b' := closedBuilt declared Ty.Generic S') (presentEdges_perm hp))
      64 Ty.Generic c hG rfl⟩

/-- C03 / C04 stated on what the driver evaluates: whenever the full-engine traversal of the executable
model returns normally, its result column is contained in its result type and is a fixpoint -/
theorem C03_pandas_model (o : ColOracle) (S : List Ty) (nd : S.Nodup) (hg : Ty.Generic ∈ S)
    (pc : ParentClosedL declared S) (hsub : ∀ t ∈ S, t ∈ completeSet) (c : Column) (hG : Good o c) :
    ∃ b, mkTypeset declared isGeneric S = .ok b ∧
      ∀ d p, traverse (graphOf o b) 64 b.root c () [] = .ok (d, p, ()) →
        containsB (plast b.root p) d = true ∧
        ptraverse (pandasTS o b).succ 64 b.root d = (d, (ptraverse (pandasTS o b).succ 64 b.root d).2) ∧
        plast b.root (ptraverse (pandasTS o b).succ 64 b.root d).2 = plast b.root p :=
  ⟨_, C14.mkTypeset_closed nd hg pc, fun _ _ h =>
    have ⟨h1, _, h3, h4⟩ :=
      (backend o).sound_of_ok _ (closed_wf o nd hsub) (closed_nodes (backend o) _ hg pc) (fuel_ok _) hG rfl h
    ⟨h1, Prod.ext h3 rfl, h4⟩⟩

def o0 : ColOracle := { toDatetime := fun _ => .raises "ValueError" }
/-- complex128 column [1+0j, 2+0j] -/
def cz : Column :=
  { dtype := .fam .complex, cells := [Cell.ofComplex (.fin 1 0) (.fin 0 0), Cell.ofComplex (.fin 2 0) (.fin 0 0)],
    index := ["0", "1"], name := "z" }
/-- object column [True, None, False] -/
def cb : Column :=
  { dtype := .object, cells := [Cell.ofBool true, Cell.missing .none_, Cell.ofBool false], index := ["0", "1", "2"], name := "b" }

theorem good_cz : Good o0 cz := goodB_sound _ _ (by decide +kernel)
theorem good_cb : Good o0 cb := goodB_sound _ _ (by decide +kernel)

example : ∃ b, mkTypeset declared isGeneric completeSet = .ok b ∧
    containsB (plast b.root (ptraverse (pandasTS o0 b).succ 64 b.root cz).2) (ptraverse (pandasTS o0 b).succ 64 b.root cz).1 = true := by
  obtain ⟨nd, hg, pc⟩ := C14.complete_ok
  obtain ⟨b, hb, h⟩ := C03_pandas o0 completeSet nd hg pc (fun _ h => h) cz good_cz
  exact ⟨b, hb, h.1⟩

example : (match mkTypeset declared isGeneric completeSet with
    | .ok b => some ((ptraverse (pandasTS o0 b).succ 64 b.root cz).2, (ptraverse (pandasTS o0 b).succ 64 b.root cb).2)
    | .error _ => none) = some ([.Generic, .Complex, .Float, .Integer], [.Generic, .Object, .Boolean]) := by
  decide +kernel

theorem succ_restrict_perm (o : ColOracle) (A B : List Ty) (hAB : ∀ t ∈ A, t ∈ B) (ndA : A.Nodup) (ndB : B.Nodup)
    (bA bB : Built Ty) (eA : bA.edges = presentEdges declared A) (eB : bB.edges = presentEdges declared B)
    (n : Ty) (hn : n ∈ A) :
    (((pandasTS o bB).restrict (fun t => decide (t ∈ A))).succ n).Perm ((pandasTS o bA).succ n) :=
  (backend o).restrict_perm _ C14.tableWF.srcNodup hAB ndA ndB eA eB hn

/-- **C15** for typesets built from supply lists `A ⊆ B` and every `Good` column: the detection path under `A` is a prefix of
the one under `B` and holds exactly its types in `A` (so `detect_A` is the deepest type of `B`'s detection path in `A`); the
inference walk under `A` is a prefix of the one under `B`, which continues from `A`'s answer and `A`'s cast data (so
`infer_B` is reachable from `infer_A`). -/
theorem C15_pandas (o : ColOracle) (A B : List Ty) (hAB : ∀ t ∈ A, t ∈ B) (ndA : A.Nodup) (ndB : B.Nodup)
    (hgA : Ty.Generic ∈ A) (pcA : ParentClosedL declared A) (pcB : ParentClosedL declared B)
    (hsubB : ∀ t ∈ B, t ∈ completeSet) (c : Column) (hG : Good o c) :
    ∃ bA bB, mkTypeset declared isGeneric A = .ok bA ∧ mkTypeset declared isGeneric B = .ok bB ∧
      (let pA := (ptraverse (pandasTS o bA).idSucc 64 bA.root c).2
       let pB := (ptraverse (pandasTS o bB).idSucc 64 bB.root c).2
       pA <+: pB ∧ (∀ t ∈ pB, t ∈ A → t ∈ pA) ∧ (∀ t ∈ pA, t ∈ A)) ∧
      (let rA := ptraverse (pandasTS o bA).succ 64 bA.root c
       let rB := ptraverse (pandasTS o bB).succ 64 bB.root c
       rA.2 <+: rB.2 ∧
       ptraverse (pandasTS o bB).succ 64 (plast bA.root rA.2) rA.1 = (rB.1, rB.2.drop (rA.2.length - 1))) := by
  refine ⟨_, _, C14.mkTypeset_closed ndA hgA pcA, C14.mkTypeset_closed ndB (hAB _ hgA) pcB, ?_⟩
  have := C15.refines_of_perm (pandasTS o (closedBuilt declared Ty.Generic B)) (pandasTS o (closedBuilt declared Ty.Generic A))
    (closed_wf o ndB hsubB) (fun t => decide (t ∈ A))
    ((backend o).parentClosed _ pcA (closed_fromTable ndB hsubB).decl)
    (fun n hn => succ_restrict_perm o A B hAB ndA ndB _ _ rfl rfl n (of_decide_eq_true hn))
    Ty.Generic 64 (fuel_ok _) c hG rfl (decide_eq_true hgA)
  simp only [decide_eq_true_eq] at this
  exact this

/-- **C01 for every constructible typeset and EVERY column** (no hypothesis on the column at all): detection returns
the input along a chain of identity relations from Generic, every type on it contains the column, and no identity child of
the answer does -/
theorem C01_pandas_built (o : ColOracle) (S : List Ty) (nd : S.Nodup) (hg : Ty.Generic ∈ S)
    (pc : ParentClosedL declared S) (hsub : ∀ t ∈ S, t ∈ completeSet) (c : Column) :
    ∃ b, mkTypeset declared isGeneric S = .ok b ∧
      let res := ptraverse (pandasTS o b).idSucc 64 b.root c
      res.1 = c ∧ res.2.head? = some Ty.Generic ∧ (∀ t ∈ res.2, containsB t c = true) ∧
      Linked (fun a b' => ∃ r ∈ (pandasTS o b).idSucc a, r.dst = b') res.2 ∧
      (∀ r ∈ (pandasTS o b).idSucc (plast b.root res.2), containsB r.dst c = false) :=
  ⟨_, C14.mkTypeset_closed nd hg pc, C01.C01_pandas o _ (closed_fromTable nd hsub).rank c rfl⟩

/-- **the pandas model's `infer`, end to end**: for every constructible typeset over the 22 types and every column that
passes the executable check `goodB o c && guardsOkB o c`, the traversal the driver evaluates returns normally, and its
answer is sound (the cast column is in the reported type, detecting it gives that type) and convergent (inferring the
cast column again changes nothing) -/
theorem infer_pandas_complete (o : ColOracle) (S : List Ty) (nd : S.Nodup) (hg : Ty.Generic ∈ S)
    (pc : ParentClosedL declared S) (hsub : ∀ t ∈ S, t ∈ completeSet) (c : Column)
    (h : (goodB o c && guardsOkB o c) = true) :
    ∃ b d p, mkTypeset declared isGeneric S = .ok b ∧
      traverse (graphOf o b) 64 b.root c () [] = .ok (d, p, ()) ∧
      containsB (plast b.root p) d = true ∧
      plast b.root (ptraverse (pandasTS o b).idSucc 64 b.root d).2 = plast b.root p ∧
      (ptraverse (pandasTS o b).succ 64 b.root d).1 = d ∧
      plast b.root (ptraverse (pandasTS o b).succ 64 b.root d).2 = plast b.root p := by
  simp only [Bool.and_eq_true] at h
  have hG := goodB_sound o c h.1
  obtain ⟨⟨d, p, ⟨⟩⟩, hv⟩ := infer_total o _ (closed_fromTable nd hsub) c hG (guardsOkB_sound o c h.2) rfl
  exact ⟨_, d, p, C14.mkTypeset_closed nd hg pc, hv,
    (backend o).sound_of_ok _ (closed_wf o nd hsub) (closed_nodes (backend o) _ hg pc) (fuel_ok _) hG rfl hv⟩

end V.PandasProps
