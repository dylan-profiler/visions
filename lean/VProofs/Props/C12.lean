/-
  C12 — The engine implements the documented traversal for any user-defined type system.

  `Run` (VProofs.Lemmas.Full) is the documented traversal as a relation: repeatedly follow the first
  outgoing relation (adjacency order) whose guard accepts the current data — each guard tried sees
  the state its predecessor left — apply its transformer, stop when none accepts.  The executable
  `traverse` (the model that the Engine correspondence runner ties to `traverse_graph_with_series`)
  computes exactly the maximal `Run`, for every graph, every guard and transformer (arbitrary
  functions of data and state, possibly failing), every input.
-/
import VProofs.Lemmas.Full
namespace V.C12

variable {T D S : Type}

theorem C12_sound (g : Graph T D S) (f : Nat) (n : T) (x : D) (s : S) (d : D) (p : List T) (s' : S)
    (h : traverse g f n x s [] = .ok (d, p, s')) : Run g (n, x, s) p (d, s') := by
  obtain ⟨q, rfl, _, hr⟩ := traverse_run g f n x s [] d p s' h
  exact hr

theorem C12_complete (g : Graph T D S) (n : T) (x : D) (s : S) (p : List T) (d : D) (s' : S)
    (h : Run g (n, x, s) p (d, s')) (f : Nat) (hf : p.length ≤ f) :
    traverse g f n x s [] = .ok (d, p, s') :=
  run_traverse g (n, x, s) p (d, s') h f [] hf

theorem C12_deterministic (g : Graph T D S) (c : T × D × S) (p p' : List T) (r r' : D × S)
    (h : Run g c p r) (h' : Run g c p' r') : p = p' ∧ r = r' := by
  -- both are what the engine returns on enough fuel
  have e := (run_traverse g c p r h (p.length + p'.length) [] (Nat.le_add_right ..)).symm.trans
    (run_traverse g c p' r' h' (p.length + p'.length) [] (Nat.le_add_left ..))
  simp only [List.nil_append, Except.ok.injEq, Prod.mk.injEq] at e
  exact ⟨e.2.1, Prod.ext e.1 e.2.2⟩

/-- `infer` / `detect` start from the root, the *empty* state and the empty path; the state
returned is the one the last guard/transformer left (it is the final component of the `Run`) -/
theorem C12_state (ts : Typeset T D S) (x : D) (d : D) (p : List T) (s' : S)
    (h : ts.infer x = .ok (d, p, s')) : Run ts.graph (ts.root, x, ts.empty) p (d, s') :=
  C12_sound ts.graph ts.fuel ts.root x ts.empty d p s' h

theorem C12_state_detect (ts : Typeset T D S) (x : D) (d : D) (p : List T) (s' : S)
    (h : ts.detect x = .ok (d, p, s')) : Run ts.graph.base (ts.root, x, ts.empty) p (d, s') :=
  C12_sound ts.graph.base ts.fuel ts.root x ts.empty d p s' h

/-- every DataFrame column is traversed from the empty path and the empty state, independently -/
theorem C12_frame_fresh {L : Type} (g : Graph T D S) (f : Nat) (root : T) (e : S)
    (cols : List (L × D)) (rs : List (L × (D × List T × S)))
    (h : traverseFrame g f root e cols = .ok rs) :
    Forall2 (fun c r => c.1 = r.1 ∧ Run g (root, c.2, e) r.2.2.1 (r.2.1, r.2.2.2)) cols rs :=
  .of_pointwise ((traverseFrame_ok g f root e cols rs).mp h) fun _ _ h1 => ⟨h1.1, C12_sound g f root _ e _ _ _ h1.2⟩

section example_
def gEx : Graph Nat Nat Nat :=
  { succ := fun n =>
      if n = 0 then
        [ { src := 0, dst := 1, inferential := false, guard := fun x s => .ok (x == 7, s + 1), xform := fun x s => .ok (x, s) },
          { src := 0, dst := 2, inferential := true, guard := fun x s => .ok (x == 3, s + 10), xform := fun x s => .ok (x + 1, s) } ]
      else if n = 2 then
        [ { src := 2, dst := 3, inferential := true, guard := fun x s => .ok (x == 4, s + 100), xform := fun x s => .ok (x * 2, s) } ]
      else [] }
example : traverse gEx 10 0 3 0 [] = .ok (8, [0, 2, 3], 111) := by rfl
example : Run gEx (0, 3, 0) [0, 2, 3] (8, 111) := C12_sound gEx 10 0 3 0 8 [0, 2, 3] 111 (by rfl)
end example_

end V.C12
