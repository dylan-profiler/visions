/-
  C06, element by element, for the pandas model.  Together with `C06_shape` (length, index, name) and `nulls_pandas` (positions
  of missing values) this is the statement of C06 for one coercion.
-/
import VProofs.Props.C06
namespace V.C06
open V V.Gen V.Pd

theorem applyStr_pointwise (c c' : Column) (p : StrFacts → Outcome Cell) (q : Cell → Outcome Cell)
    (h : applyStr c p q = .ok c') :
    Pointwise (fun x y => (match x.str with | some f => p f | none => q x) = Outcome.ok y) c.cells c'.cells :=
  (mapCells_spec (applyStr_eq c p q ▸ h)).cells.imp fun _ _ ⟨_, ha, hy⟩ => hy ▸ ha

theorem applyStr_decode (c c' : Column) (p : StrFacts → Outcome Cell) (cls : String)
    (h : applyStr c p (fun x => if x.null then .ok x else .raises cls) = .ok c') :
    Pointwise (fun x y => (∀ f, x.str = some f → p f = Outcome.ok y) ∧ (x.str = none → x.null = true → y = x))
      c.cells c'.cells :=
  (applyStr_pointwise c c' _ _ h).imp fun x y hxy =>
    ⟨fun f hf => by rw [hf] at hxy; exact hxy,
     fun hn hnull => by rw [hn] at hxy; simp only [hnull, if_true, Outcome.ok.injEq] at hxy; exact hxy.symm⟩

def decodeStr : Ty → StrFacts → Outcome Cell
  | .Geometry, f => (match f.wkt with | .ok (_, r) => .ok (geomCell r) | .raises cls => .raises cls)
  | .IPAddress, f => (match f.ip with | .ok (cls, r) => .ok (ipCell cls r) | .raises cls => .raises cls)
  | .URL, f => (match f.url with | .ok (n, s, r) => .ok (urlCell n s r) | .raises cls => .raises cls)
  | .UUID, f => (match f.uuid with | .ok r => .ok (uuidCell r) | .raises cls => .raises cls)
  | .EmailAddress, f => (match f.email with | .ok r => .ok (emailCell r) | .raises cls => .raises cls)
  | _, _ => .raises "NotAnObjectTarget"

/-- **C06 for the object-valued targets**: String -> Geometry / IPAddress / URL / UUID / EmailAddress map a string cell to the
object its library parser returns for THAT string ('POINT (1 2)' -> that point, '127.0.0.1' -> that address, …), at the same
position, and leave a missing value the very cell it was -/
theorem C06_decode_object_targets (o : ColOracle) (dst : Ty) (hd : dst ∈ [Ty.Geometry, .IPAddress, .URL, .UUID, .EmailAddress])
    (t : Column → R Column) (ht : xform o .String dst = some t) (c c' : Column) (h : t c = .ok c') :
    Pointwise (fun x y =>
        (∀ f, x.str = some f → decodeStr dst f = Outcome.ok y) ∧
        (x.str = none → x.null = true → y = x)) c.cells c'.cells := by
  simp only [List.mem_cons, List.not_mem_nil, or_false] at hd
  rcases hd with rfl | rfl | rfl | rfl | rfl <;> cases ht <;> exact applyStr_decode c c' (decodeStr _) _ h

/-- **String -> Float decodes each string to the number `float()` returns for it**, position by position -/
theorem C06_decode_string_float (c c' : Column) (h : stringToFloat c = .ok c') :
    Pointwise (fun x y => ∃ v, cellFloat c.dtype x = Outcome.ok v ∧ y = Cell.ofFloat v) c.cells c'.cells :=
  (mapCells_spec (stringToFloat_eq c ▸ h)).cells

/-- **String -> Complex** likewise with `complex()` (a NaN part makes the whole value the missing value) -/
theorem C06_decode_string_complex (c c' : Column) (h : stringToComplex c = .ok c') :
    Pointwise (fun x y => ∃ p, cellComplex x = Outcome.ok p ∧
        y = (if p.1.isNan || p.2.isNan then Cell.ofComplex .nan (.fin 0 0) else Cell.ofComplex p.1 p.2)) c.cells c'.cells :=
  (mapCells_spec (stringToComplex_eq c ▸ h)).cells

example : decodeStr .IPAddress { (default : StrFacts) with ip := .ok ("IPv4Address", "127.0.0.1") } =
    .ok (ipCell "IPv4Address" "127.0.0.1") := rfl

end V.C06
