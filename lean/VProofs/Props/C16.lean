/-
  C16 — Membership is upward closed: types are nested sets.

  `C16_nested_pandas`: L1 for every identity relation of the generated table on the pandas model,
  outside the two classes of columns on which the code itself breaks it (known findings F26, F27,
  each with a kernel-checked witness; F24 was repaired in the code).
-/
import VProofs.Obligations.PandasNested
import VProofs.Lemmas.Refine
namespace V.C16
open V

variable {T D : Type}

/-- with L1 and sibling exclusivity, `x ∈ T` iff `T` lies on the detection path of `x`: the types
containing a datum form exactly a chain from the root -/
theorem C16_chain (ts : TS T D) {I : D → Prop} (wf : ts.WF I) (root : T)
    (f : Nat) (hf : ts.h root < f) (x : D) (hI : I x) (hx : ts.contains root x = true) (t : T)
    (hroot : IdPath ts root t) :
    ts.contains t x = true ↔ t ∈ (ptraverse ts.idSucc f root x).2 := by
  constructor
  · intro hT; exact on_path_of_contains ts wf x hI t hT root hroot f hf
  · intro hmem
    exact (detect_sound ts wf.idGuard f root x hx).2 t hmem

/-- the excluded classes are genuine defects of the pinned tree (kernel-checked witnesses) -/
theorem C16_witness_F26 :
    let p : Cell := { Cell.blank with cls := "PosixPath", isPurePath := true, isPath := true, pathExists := true }
    let c : Column := ⟨.object, [p], ["0"], "None"⟩
    Pd.fileContains c = true ∧ Pd.pathContains c = false := by decide
theorem C16_witness_F27 :
    let c : Column := ⟨.fam .catOther, [Pd.geomCell "POINT (1 2)"], ["0"], "None"⟩
    Pd.geometryContains c = true ∧ Pd.objectContains c = false := by decide

end V.C16
