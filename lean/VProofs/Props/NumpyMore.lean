/-
  What needs no typeset, for the numpy model: membership depends on the bag of elements only (`C11_membership_numpy`: the
  `array[0:5]` prefix test of `_is_string` is subsumed by its full scan, `isString_iff`); what the transformers keep (C06); which
  tests answer on which arrays (C09: `conversionsCaught`).
-/
import VProofs.Obligations.NumpyLands
namespace V.NumpyProps
open V V.Gen V.Np

theorem C11_membership_numpy (t : Ty) (a b : NArr) (hk : a.kind = b.kind) (h : a.elems.Perm b.elems)
    (hw : ∀ x ∈ a.elems, ElemWF a.kind x) : containsB t a = containsB t b :=
  containsB_congr t hk (fun _ => h.mem_iff) hw

/-- String -> Float / Complex / Boolean and Complex -> Float keep the length, and (for the relations out of String and
Object) a value that was missing stays missing.  (Complex -> Float keeps the real part: a complex value whose IMAGINARY part
alone is NaN counts as missing for `nan_mask` and comes out as its real part — the same in the pandas back end.) -/
theorem C06_shape_numpy (o : NpOracle) (src dst : Ty) (t : NArr → R NArr) (htd : xform o src dst = some t)
    (hne : ¬ (src = .Float ∧ dst = .Integer)) (hnd : dst ≠ .DateTime) (a a' : NArr) (ht : t a = .ok a') :
    a'.elems.length = a.elems.length ∧
    (src ≠ .Complex → ∀ i (h : i < a.elems.length) (h' : i < a'.elems.length), (a.elems[i]).null = true → (a'.elems[i]).null = true) := by
  obtain ⟨_, r⟩ := Row.of_xform htd
  cases r with
  | objectBoolean =>
    cases ht
    exact ⟨rfl, fun _ _ _ _ hn => hn⟩
  | stringBoolean =>
    cases (stringToBoolean_ok.mp ht).2.2
    refine ⟨List.length_map _, fun _ i h h' hn => ?_⟩
    simp only [List.getElem_map, s2b, hn, if_true]
  | stringComplex =>
    cases (stringToComplex_ok.mp ht).2
    refine ⟨List.length_map _, fun _ i h h' hn => ?_⟩
    simp only [List.getElem_map, s2c, hn, if_true]; rfl
  | stringDatetime => exact absurd rfl hnd
  | stringFloat =>
    cases (stringToFloat_ok.mp ht).2
    refine ⟨List.length_map _, fun _ i h h' hn => ?_⟩
    simp only [List.getElem_map, s2f, hn, if_true]; rfl
  | complexFloat =>
    rw [complexToFloat_eq] at ht
    cases ht
    exact ⟨List.length_map _, fun hh => absurd rfl hh⟩
  | floatInteger => exact absurd ⟨rfl, rfl⟩ hne

/-- float64 array [1.0, nan, 2.0] -/
def aF42 : NArr := { kind := .f, elems := [NElem.ofFloat (.fin 1 0), NElem.ofFloat .nan, NElem.ofFloat (.fin 2 0)] }
/-- **known finding F42, witnessed in the kernel**: Float -> Integer on `[1.0, nan, 2.0]` returns two elements -/
theorem C06_witness_F42 :
    floatIsInteger aF42 = .ok true ∧ (floatToInteger aF42).toOption.map (·.elems.length) = some 2 := ⟨rfl, rfl⟩

/-- Float -> Integer is exact on what its test admitted: every value that is not missing is a whole number in int64 range,
and the output holds exactly those numbers, in order -/
theorem C06_lossless_float_integer_numpy (a a' : NArr) (hg : floatIsInteger a = .ok true) (ht : floatToInteger a = .ok a') :
    (∀ x ∈ a.mask.elems, ∃ v, x.fl = .ok v ∧ v.isInt64 = true) ∧ a'.elems = a.mask.elems.map f2i := by
  obtain ⟨_, rfl⟩ := floatToInteger_ok.mp ht
  refine ⟨fun x hx => ?_, rfl⟩
  have := (handleNulls_all_ok_true.mp hg).2 x hx
  cases hf : x.fl with
  | raises c => simp [hf] at this
  | ok v => exact ⟨v, rfl, by simpa [hf] using this⟩

/-- Complex -> Float is taken only when no imaginary part would be dropped -/
theorem C06_lossless_complex_float_numpy (a : NArr) (hg : complexIsFloat a = .ok true) :
    ∀ x ∈ a.mask.elems, ∃ re im, x.cx = .ok (re, im) ∧ im.isZero = true := by
  intro x hx
  have := (handleNulls_all_ok_true.mp hg).2 x hx
  cases hc : x.cx with
  | raises c => simp [hc] at this
  | ok p => obtain ⟨re, im⟩ := p; exact ⟨re, im, rfl, by simpa [hc] using this⟩

/-- C09 for membership: the tests are Bool-valued compositions of dtype tests and `all` over element facts -/
theorem C09_contains_total_numpy (t : Ty) (a : NArr) : ∃ b, containsB t a = b := ⟨_, rfl⟩
theorem C09_generic_numpy (a : NArr) : containsB .Generic a = true := rfl

/-- every conversion outcome of a value is a value or a class the code catches (ValueError, TypeError, AttributeError;
OverflowError too for datetimes).  Executable, but defined here and evaluated by nobody. -/
def conversionsCaught (o : NpOracle) (a : NArr) : Bool :=
  a.mask.elems.all (fun x =>
    (match x.lower with | .raises c => caughtByEvaluator c | _ => true) &&
    (match x.fl with | .raises c => caughtByEvaluator c | _ => true) &&
    (match x.cx with | .raises c => caughtByEvaluator c | _ => true)) &&
  (match o.dtMasked a.mask with | .raises c => caughtByEvaluator c || isA c "OverflowError" | _ => true)

/-- a relation test of the model raises only when an element conversion raised an exception outside the classes the code
catches: under `conversionsCaught` all seven tests answer -/
theorem C09_guards_total_numpy (o : NpOracle) (a : NArr) (h : conversionsCaught o a = true) (src dst : Ty) (g : NArr → R Bool)
    (hg : Np.guard o src dst = some g) : ∃ b, g a = .ok b := by
  simp only [conversionsCaught, Bool.and_eq_true, List.all_eq_true, imp_and, forall_and] at h
  obtain ⟨⟨⟨lower, fl⟩, cx⟩, hdt⟩ := h
  have tf : ∃ b, stringIsFloat a = .ok b := ⟨_, stringIsFloat_eq fun x hx c hc => by simpa [hc] using fl x hx⟩
  obtain ⟨_, r⟩ := Row.of_guard hg
  cases r with
  | objectBoolean | complexFloat | floatInteger => exact handleNulls_total ⟨_, rfl⟩
  | stringBoolean =>
    refine total_firstRaise (fun x hx c hc => by simpa [hc] using lower x hx) ?_
    dsimp only
    split <;> exact ⟨_, rfl⟩
  | stringComplex =>
    refine total_firstRaise (fun x hx c hc => by simpa [hc] using cx x hx) ?_
    obtain ⟨b, hb⟩ := tf
    rw [hb]
    cases b <;> exact ⟨_, rfl⟩
  | stringDatetime =>
    refine handleNulls_total ?_
    cases hd : o.dtMasked a.mask with
    | raises c =>
      rw [hd] at hdt
      exact ⟨false, by simp [hdt]⟩
    | ok r => exact ⟨_, rfl⟩
  | stringFloat => exact tf

end V.NumpyProps
