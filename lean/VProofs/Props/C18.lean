/-
  C18 — Sampled traversal is sound.

  `traverseSampled` takes the sampler as an arbitrary function, so every theorem holds for every
  possible random draw.  (The code this models is the repaired one — see DESIGN §12: the pinned tree
  returned `path[0:i+2]`, which includes the target of a hop the full series failed.)
-/
import VProofs.Lemmas.Full
namespace V.C18
open V

variable {T D S : Type}

/-- under 1000 rows, or with a sample larger than the data, sampled traversal *is* full traversal -/
theorem C18_small (g : Graph T D S) (rel : T → T → Option (Rel T D S)) (sample : D → D) (len : D → Nat)
    (fuel : Nat) (base : T) (x : D) (k : Nat) (s : S) (h : len x < 1000 ∨ k > len x) :
    traverseSampled g rel sample len fuel base x k s = traverse g fuel base x s [] := by
  have hb : (decide (len x < 1000) || decide (k > len x)) = true := by simpa using h
  simp only [traverseSampled, hb, if_true]

/-- In the sampling branch, whatever is returned `(d, p, s')`:
  * `p = base :: hops` is a prefix of the path found on the sample;
  * the full data `x` has been pushed through exactly the relations along `hops`, each of whose
    guards accepted the full data as it was at that point (`Through`);
  hence no type is reported whose relation the full data failed.  `sEnd` is the state after the last of these
  hops, not `s'`: when the replay breaks off, `s'` is the state the rejecting guard left. -/
theorem C18_sound (g : Graph T D S) (rel : T → T → Option (Rel T D S)) (sample : D → D) (len : D → Nat)
    (fuel : Nat) (base : T) (x : D) (k : Nat) (s : S) (hbig : ¬ (len x < 1000 ∨ k > len x))
    (d : D) (p : List T) (s' : S)
    (h : traverseSampled g rel sample len fuel base x k s = .ok (d, p, s')) :
    ∃ (ds : D) (ps : List T) (s1 : S) (hops : List T) (sEnd : S),
      traverse g fuel base (sample x) s [] = .ok (ds, ps, s1) ∧
      p <+: ps ∧ p = base :: hops ∧ Through rel base x s1 hops d sEnd := by
  have hb : (decide (len x < 1000) || decide (k > len x)) = false := by simpa using hbig
  simp only [traverseSampled, hb, Bool.false_eq_true, if_false] at h
  cases ht : traverse g fuel base (sample x) s [] with
  | error e => rw [ht] at h; cases h
  | ok v =>
    obtain ⟨ds, path, s1⟩ := v
    obtain ⟨_, rfl, _, hrun⟩ := traverse_run g fuel base (sample x) s [] ds path s1 ht
    obtain ⟨rest, rfl⟩ := hrun.head
    simp only [ht] at h
    split at h
    · -- a path of length one: nothing to replay
      next hlen =>
      cases h
      obtain rfl : rest = [] := by simpa using hlen
      exact ⟨ds, _, _, [], _, rfl, List.prefix_refl _, rfl, .nil⟩
    · obtain ⟨done, sEnd, rfl, hpre, hth⟩ := replayPath_through rel rest base x s1 [base] d p s' h
      exact ⟨ds, _, s1, done, sEnd, rfl, List.cons_prefix_cons.mpr ⟨rfl, hpre⟩, rfl, hth⟩

/-- the returned data belongs to the last reported type, provided every accepted relation lands
in its target (L3, and L0 for identity relations) and the input belongs to the start type -/
theorem C18_lands (rel : T → T → Option (Rel T D S)) (contains : T → D → Prop)
    (lands : ∀ a b r x s s1 x' s2, rel a b = some r → contains a x → r.guard x s = .ok (true, s1) →
      r.xform x s1 = .ok (x', s2) → contains b x')
    (base : T) (x : D) (s1 : S) (hops : List T) (d : D) (sEnd : S)
    (hth : Through rel base x s1 hops d sEnd) (hc : contains base x) :
    contains ((base :: hops).getLast (by simp)) d := by
  induction hth with
  | nil => simpa using hc
  | @cons a b x s s1 x' s2 rest d s' r h1 h2 h3 _ ih =>
    simpa [List.getLast_cons] using ih (lands a b r x s s1 x' s2 h1 hc h2 h3)

end V.C18
