/-
  C03 — Inference is sound: the cast data is exactly of the inferred type.
-/
import VProofs.Lemmas.Pure
import VProofs.Obligations.PandasLands
namespace V.C03
open V

variable {T D : Type}

/-- (L0, L1, L2, L3) The cast datum is contained in the inferred type, and
detecting the cast datum (identity relations only, from the root) yields exactly the inferred type
and returns the datum unchanged. -/
theorem C03_infer_sound (ts : TS T D) {I : D → Prop} (wf : ts.WF I) (root : T) (N : T → Prop) (hN : Nodes ts N root)
    (f : Nat) (hf : ts.h root < f) (x : D) (hI : I x) (hx : ts.contains root x = true) :
    let res := ptraverse ts.succ f root x
    let t := plast root res.2
    ts.contains t res.1 = true ∧
    (ptraverse ts.idSucc f root res.1).1 = res.1 ∧
    plast root (ptraverse ts.idSucc f root res.1).2 = t := by
  intro res t
  have ⟨hc, hstop, hI'⟩ := infer_lands ts wf f root x hf hI hx
  exact ⟨hc, detect_follows_chain ts wf t res.1 hI' hc
    (pfirst_eq_none.mpr fun r hr => pfirst_eq_none.mp hstop r (mem_idSucc.mp hr).1)
    root (hN.idpath t (plast_in_nodes ts.succ N hN.step f root x hN.rootIn)) f hf⟩

/-- every coercion taken on the way lands inside its target type; that the datum is in every type of
the path at the moment it is reached follows by `ptraverse_inv` with `TS.WF.step` -/
theorem C03_lands_step (ts : TS T D) {I : D → Prop} (wf : ts.WF I) (n : T) (r : PRel T D) (x : D)
    (hr : r ∈ ts.succ n) (hI : I x) (hc : ts.contains n x = true) (hg : r.guard x = true) :
    ts.contains r.dst (r.xform x) = true := wf.lands n r x hr hI hc hg

open V.Gen V.Pd

/-- L3 for each of the 14 inference relations of the generated table, under the named hypotheses
`LandsHyp` (a complex cell is missing iff its payload is NaN; a `str` element is never missing;
`pd.to_datetime` on the whole column finds a timestamp). -/
theorem C03_lands_pandas (o : ColOracle) (src dst : Ty) (g : Column → R Bool) (t : Column → R Column)
    (hg : Pd.guard o src dst = some g) (ht : Pd.xform o src dst = some t)
    (c c' : Column) (hyp : LandsHyp o c) (hsrc : containsB src c = true)
    (hacc : g c = .ok true) (hx : t c = .ok c') : containsB dst c' = true :=
  lands_pandas o src dst g t hg ht c c' hyp hsrc hacc hx

example : floatToInteger ⟨.fam .float, [Cell.ofFloat (.fin 1 0)], ["0"], "None"⟩
    = .ok ⟨.fam .int, [Cell.ofInt 1], ["0"], "None"⟩ := by rfl

end V.C03
