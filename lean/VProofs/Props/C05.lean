/-
  C05 — Inputs are never mutated; no-op casts return the input object itself.

  Data values `D` are arbitrary, so `D` may carry an identity token: equality of the returned
  datum with the input *is* "the very object".  What a functional model cannot exhibit is in-place
  mutation of the argument — that part is observed by the harness (deep snapshots around every
  call, guard and transformer), hence the property is labelled partial.
-/
import VProofs.Lemmas.Full
namespace V.C05
open V

variable {T D S : Type}

/-- every identity (non-inferential) relation of the graph carries `identity_transform` -/
def IdentityXforms (g : Graph T D S) : Prop :=
  ∀ n, ∀ r ∈ g.succ n, r.inferential = false → ∀ x s, r.xform x s = .ok (x, s)

theorem run_no_coercion (g : Graph T D S) (hid : IdentityXforms g) {c : T × D × S} {q : List T} {res : D × S}
    (hrun : Run g c q res)
    (hno : ∀ a b, [a, b] <:+: q → ∀ r ∈ g.succ a, r.dst = b → r.inferential = false) : res.1 = c.2.1 := by
  induction hrun with
  | stop _ => rfl
  | @step n x s c' p res hop hrun ih =>
    cases hop with
    | @mk _ _ _ s0 s1 s2 x' pre post r e _ _ hx =>
      -- the hop n → r.dst heads the path, so `r` is an identity relation and `x' = x`
      obtain ⟨p', rfl⟩ := hrun.head
      have hmem : r ∈ g.succ n := e ▸ List.mem_append_right _ List.mem_cons_self
      have hinf := hno n r.dst (List.prefix_append [n, r.dst] p').isInfix r hmem rfl
      rw [hid n r hmem hinf x s1] at hx
      cases hx
      exact ih fun a b hab => hno a b (hab.trans (List.suffix_cons _ _).isInfix)

theorem no_coercion_returns_input (g : Graph T D S) (hid : IdentityXforms g) {f : Nat} {n : T} {x d : D} {s s' : S}
    {p : List T} (h : traverse g f n x s [] = .ok (d, p, s'))
    (hno : ∀ a b, [a, b] <:+: p → ∀ r ∈ g.succ a, r.dst = b → r.inferential = false) : d = x := by
  obtain ⟨q, rfl, _, hrun⟩ := traverse_run g f n x s [] d p s' h
  exact run_no_coercion g hid hrun hno

/-- **cast_to_detected returns the very object it was given**: the base graph has identity
relations only, whose transformer is `identity_transform` -/
theorem C05_detected_is_input (ts : Typeset T D S) (hid : IdentityXforms ts.graph) (x : D) (d : D)
    (h : ts.castToDetected x = .ok d) : d = x := by
  simp only [Typeset.castToDetected, Typeset.detect] at h
  cases ht : traverse ts.graph.base ts.fuel ts.root x ts.empty [] with
  | error e => rw [ht] at h; cases h
  | ok v =>
    rw [ht] at h
    cases h
    refine no_coercion_returns_input ts.graph.base (fun n r hr => hid n r (List.mem_filter.mp hr).1) ht
      fun a b _ r hr _ => ?_
    simpa using (List.mem_filter.mp hr).2

/-- **cast_to_inferred returns the input itself whenever inference applies no coercion** -/
theorem C05_inferred_is_input_when_no_coercion (ts : Typeset T D S) (hid : IdentityXforms ts.graph)
    (x d : D) (p : List T) (s' : S) (h : ts.infer x = .ok (d, p, s'))
    (hno : ∀ a b, [a, b] <:+: p → ∀ r ∈ ts.graph.succ a, r.dst = b → r.inferential = false) : d = x :=
  no_coercion_returns_input ts.graph hid h hno

end V.C05
