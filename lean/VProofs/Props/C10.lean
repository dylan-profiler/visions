/-
  C10 — Purity: results depend only on (typeset, data); no global side effects.

  `C10_frame`: every API operation leaves every named global slot as it found it (the lazily built
  relations cache may only grow); `C10_history`: so does every finite history.  The
  results of the API are functions of (typeset, data) in the model by construction (no model function
  takes the global state as an argument) — that the *code* has no hidden dependence (hash seed, earlier
  calls, other typesets) is what the History runner checks: PARTIAL.
-/
import VModel.GlobalState
namespace V.C10
open V

theorem stringIsGeometry_restores (g : GState) (r e : Bool) : (stringIsGeometry g r e).1 = g := by
  cases g; rfl

theorem runGeometry_id (g : GState) (l : List (Bool × Bool)) : runGeometry g l = g := by
  induction l generalizing g with
  | nil => rfl
  | cons a l ih => obtain ⟨r, e⟩ := a; simp only [runGeometry, stringIsGeometry_restores, ih]

theorem suppressWarnings_id (g : GState) : suppressWarnings g = g := by cases g; rfl

theorem runSuppress_id (g : GState) (n : Nat) : runSuppress g n = g := by
  induction n generalizing g with
  | zero => rfl
  | succ n ih => simp only [runSuppress, suppressWarnings_id, ih]

theorem touchCache_ext (g : GState) (ts : List Nat) :
    (touchCache g ts).frame = g.frame ∧ ∀ t ∈ g.relCache, t ∈ (touchCache g ts).relCache :=
  ⟨rfl, fun _ ht => List.mem_append_left _ ht⟩

theorem C10_frame (g : GState) (op : Op) :
    (step g op).frame = g.frame ∧ (∀ t ∈ g.relCache, t ∈ (step g op).relCache) := by
  cases op with
  | construct ts => exact touchCache_ext g ts
  | algebra ts => exact touchCache_ext g ts
  | membership t => exact ⟨rfl, fun _ h => h⟩
  | traverse ts geo k =>
    simp only [step, runSuppress_id, runGeometry_id]
    exact touchCache_ext g ts
  | createType => exact ⟨rfl, fun _ h => h⟩
  | functional ts geo =>
    simp only [step, runGeometry_id]
    exact touchCache_ext g ts

theorem C10_history (g : GState) (h : List Op) :
    (h.foldl step g).frame = g.frame ∧ (∀ t ∈ g.relCache, t ∈ (h.foldl step g).relCache) := by
  induction h generalizing g with
  | nil => exact ⟨rfl, fun _ h => h⟩
  | cons op h ih =>
    have ⟨f1, m1⟩ := C10_frame g op
    have ⟨f2, m2⟩ := ih (step g op)
    exact ⟨f2.trans f1, fun t ht => m2 t (m1 t ht)⟩

/-- the repository's original version of `string_is_geometry` restored `sys.__stderr__` (token 1 here), not
the caller's stream: with a caller-installed stream it violated the frame (finding F01, repaired) -/
theorem C10_witness_F01 :
    let g : GState := ⟨7, 8, [], 0, 0, 0, [], 0⟩
    let buggy := { g with stderr := 1 }
    buggy.frame ≠ g.frame := by decide

example : (step ⟨7, 8, [3], 0, 0, 0, [], 0⟩ (.traverse [1, 2] [(true, false), (false, false)] 2)).stderr = 7 := by decide

end V.C10
