/-
  C09 — Totality: typing never raises and always answers within the typeset.

  `C09_total` is the engine lifting of L6.  For the pandas model membership never raises, hence neither
  does `detect`.  `infer` can raise through a few transformers (known findings
  F29–F31, mirrored by the model), so `C09_infer_total_pandas` asks for `Good` (which excludes exactly
  those inputs through `NoRaise`) and `GuardsOk` (no relation test raises on the input) — both
  executable (`goodB`, `guardsOkB`) and evaluated by the driver on every abstracted real input; nothing
  is assumed about the intermediate columns.  Inputs outside the hypotheses, and dtypes outside the model
  (arrow, sparse, period …), are decided by the correspondence and the totality oracle on the real code.
-/
import VProofs.Lemmas.PandasTS
import VProofs.Obligations.PandasTotal
namespace V.C09
open V V.Gen V.Pd

variable {T D S : Type}

theorem C09_total (g : Graph T D S) (h : T → Nat) (hh : ∀ n r, r ∈ g.succ n → h r.dst < h n)
    (hg : ∀ n, ∀ r ∈ g.succ n, ∀ x s, ∃ v, r.guard x s = .ok v)
    (hx : ∀ n, ∀ r ∈ g.succ n, ∀ x s, ∃ v, r.xform x s = .ok v)
    (f : Nat) (n : T) (x : D) (s : S) (hf : h n < f) : ∃ v, traverse g f n x s [] = .ok v :=
  have ⟨_, _, _, _, h1, _⟩ := traverse_total_inv g h (fun _ _ => True) hh (fun n x _ r hr s => hg n r hr x s)
    (fun n x _ r hr _ s1 _ => let ⟨(x', s2), hv⟩ := hx n r hr x s1; ⟨x', s2, hv, trivial⟩) f n x s [] hf trivial
  ⟨_, h1⟩

theorem C09_contains_total_pandas (t : Ty) (c : Column) : contains t c = .ok (containsB t c) := rfl

theorem C09_generic_catch_all (c : Column) : containsB Ty.Generic c = true := rfl

/-- **detect never raises**, for every typeset whose edges increase `rank` (every parent-closed
typeset, C14) and every column -/
theorem C09_detect_total_pandas (o : ColOracle) (b : Built Ty) (hrank : ∀ e ∈ b.edges, rank e.src < rank e.dst)
    (c : Column) : ∃ v, traverse (graphOf o b).base 64 b.root c () [] = .ok v :=
  ⟨_, (backend o).detect_ok (fun t => 32 - rank t) b (height_of_rank hrank) 64 b.root c
    (Pd.fuel_ok _)⟩

/-- relations of the pandas backend that can never raise (guards) -/
theorem C09_total_guards (c : Column) :
    (∃ b, objectIsBoolean c = .ok b) ∧ (∃ b, complexIsFloat c = .ok b) ∧ (∃ b, floatIsInteger c = .ok b) ∧
    (∃ b, datetimeIsDate c = .ok b) ∧ (∃ b, stringIsBoolean c = .ok b) := by
  refine ⟨handleNulls_okB _ c, handleNulls_okB _ c, handleNulls_okB _ c, handleNulls_okB _ c, ?_⟩
  simp only [stringIsBoolean]
  split
  · exact ⟨_, rfl⟩
  · exact handleNulls_okB _ c

/-- the two transformers that cannot raise: no element conversion that could, no test of the column before it -/
theorem C09_total_xforms (c : Column) :
    (∃ d, complexToFloat c = .ok d) ∧ (∃ d, floatToInteger c = .ok d) := ⟨⟨_, rfl⟩, ⟨_, rfl⟩⟩

/-- the defects the model mirrors are real: `astype('boolean')` on a mix of bool and int raises
(known finding F29) — the model predicts the `DispatchError` the code produces -/
theorem C09_witness_F29 :
    objectIsBoolean ⟨.object, [Cell.ofBool true, Cell.ofInt 1, Cell.missing .none_], ["0", "1", "2"], "None"⟩ = .ok true ∧
    (match objectToBoolean ⟨.object, [Cell.ofBool true, Cell.ofInt 1, Cell.missing .none_], ["0", "1", "2"], "None"⟩ with
      | .error _ => true | .ok _ => false) = true := ⟨rfl, rfl⟩

/-- **infer never raises**, for every constructible typeset over the 22 types and every column satisfying
`Good` and `GuardsOk`: the traversal the driver evaluates returns normally -/
theorem C09_infer_total_pandas (o : ColOracle) (S : List Ty) (nd : S.Nodup) (hg : Ty.Generic ∈ S)
    (pc : ParentClosedL declared S) (hsub : ∀ t ∈ S, t ∈ completeSet) (c : Column)
    (hG : Good o c) (hK : GuardsOk o c) :
    ∃ b, mkTypeset declared isGeneric S = .ok b ∧ ∃ v, traverse (graphOf o b) 64 b.root c () [] = .ok v := by
  obtain ⟨b, hb, hr, _, ft, _⟩ := built_typeset o S nd hg pc hsub
  exact ⟨b, hb, infer_total o b ft c hG hK (by rw [hr]; rfl)⟩

theorem C09_hypotheses_executable (o : ColOracle) (c : Column) (h : (goodB o c && guardsOkB o c) = true) :
    Good o c ∧ GuardsOk o c := by
  simp only [Bool.and_eq_true] at h
  exact ⟨goodB_sound o c h.1, guardsOkB_sound o c h.2⟩

end V.C09
