/-
  On the pandas model every `contains_op` depends on the dtype and the set of cells only (`containsB_cells`; index and name
  are not read).  For `infer_type` the only hypothesis is `DtBag` (`pd.to_datetime` parses element by element), which the bag
  runner validates on real data.
-/
import VProofs.Obligations.PandasBagInfer
namespace V.C11
open V

variable {T D : Type}

/-- C11, engine level: data related by a relation that every guard respects and every transformer preserves get the
same path -/
theorem C11_sim (succ : T → List (PRel T D)) (R : D → D → Prop)
    (hg : ∀ n, ∀ r ∈ succ n, ∀ x y, R x y → r.guard x = r.guard y)
    (hx : ∀ n, ∀ r ∈ succ n, ∀ x y, R x y → r.guard x = true → R (r.xform x) (r.xform y)) :
    ∀ f n x y, R x y →
      (ptraverse succ f n x).2 = (ptraverse succ f n y).2 ∧ R (ptraverse succ f n x).1 (ptraverse succ f n y).1 :=
  ptraverse_sim succ R hg hx

open V.Gen V.Pd

/-- **membership is a property of the bag** (row order, index labels and name are irrelevant) -/
theorem C11_membership_pandas (t : Ty) (c c' : Column) (hd : c.dtype = c'.dtype)
    (hp : c.cells.Perm c'.cells) : containsB t c = containsB t c' :=
  containsB_cells t (SameBag.sameCells ⟨hd, hp⟩)

/-- **membership is unchanged by repeating the sequence** (`w` is not used, here and in `C11_detect_repeat_pandas`:
see `StrWF`) -/
theorem C11_repeat_pandas (t : Ty) (c : Column) (k : Nat) (w : ColWF c) :
    containsB t (repeatCol c k) = containsB t c := containsB_cells t (sameCells_repeat c k)

theorem detect_sameCells (o : ColOracle) (b : Built Ty) (f : Nat) {c c' : Column} (h : SameCells c c') :
    (ptraverse (pandasTS o b).idSucc f b.root c).2 = (ptraverse (pandasTS o b).idSucc f b.root c').2 :=
  detect_sim (pandasTS o b) (pandasTS_L0 o b) SameCells (fun t _ _ h => containsB_cells t h) f b.root c c' h

/-- **detect_type is a property of the bag**, for every typeset and every supply order -/
theorem C11_detect_pandas (o : ColOracle) (b : Built Ty) (f : Nat) (c c' : Column) (hd : c.dtype = c'.dtype)
    (hp : c.cells.Perm c'.cells) :
    (ptraverse (pandasTS o b).idSucc f b.root c).2 = (ptraverse (pandasTS o b).idSucc f b.root c').2 :=
  detect_sameCells o b f (SameBag.sameCells ⟨hd, hp⟩)

theorem C11_detect_repeat_pandas (o : ColOracle) (b : Built Ty) (f : Nat) (c : Column) (k : Nat) (w : ColWF c) :
    (ptraverse (pandasTS o b).idSucc f b.root (repeatCol c k)).2 = (ptraverse (pandasTS o b).idSucc f b.root c).2 :=
  detect_sameCells o b f (sameCells_repeat c k)

/-- **infer_type and the cast data are properties of the bag**: same inference path, cast columns with the same bag
(`ft` is not used: `infer_bag` holds for every typeset) -/
theorem C11_infer_pandas (o : ColOracle) (hdt : DtBag o) (b : Built Ty) (ft : FromTable b) (f : Nat)
    (c c' : Column) (hd : c.dtype = c'.dtype) (hp : c.cells.Perm c'.cells) :
    (ptraverse (pandasTS o b).succ f b.root c).2 = (ptraverse (pandasTS o b).succ f b.root c').2 ∧
    SameBag (ptraverse (pandasTS o b).succ f b.root c).1 (ptraverse (pandasTS o b).succ f b.root c').1 :=
  infer_bag o hdt b f b.root c c' ⟨hd, hp⟩

example : DtBag { toDatetime := fun _ => .raises "ValueError" } := by
  intro l l' _ r tz h; cases h

example :
    let d : Cell := { Cell.ofDate 737425 with null := false }
    let s : Cell := { Cell.blank with cls := "str", isStr := true, strEq := .ok true }
    containsB .Date ⟨.object, [d, s], ["0", "1"], "a"⟩ = containsB .Date ⟨.object, [s, d], ["x", "y"], "b"⟩ := by decide

end V.C11
