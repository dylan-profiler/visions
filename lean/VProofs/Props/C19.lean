/-
  C19 — Graph export is faithful and deterministic.

  `exportModel` is what `utils/graph.py::output_graph` hands to pydot: the nodes sorted by
  `str(type)` and the edges sorted by `(str(src), str(dst))`, each with its style.  The bytes written by
  pydot/graphviz are outside the model (partial) — the export runner compares files byte for byte.
-/
import VProofs.Props.C14
import VProofs.Lemmas.SortL
namespace V.C19
open V V.Gen

theorem nameRank_inj (a b : Ty) (h : nameRank a = nameRank b) : a = b := by
  revert a b; decide

theorem nameRank_lt_width (a : Ty) : nameRank a < nameWidth := by revert a; decide

theorem name_lt_of_nameRank_lt (a b : Ty) : nameRank a < nameRank b → a.name < b.name := by
  revert a b; decide +kernel

/-- `nameRank` really is the order of the type names as strings (so sorting by it is sorting by
`str(type)`) -/
theorem nameRank_is_string_order (a b : Ty) : (nameRank a < nameRank b) ↔ (a.name < b.name) := by
  -- a strictly monotone map from a linear order reflects the order as well
  refine ⟨name_lt_of_nameRank_lt a b, fun h => ?_⟩
  rcases Nat.lt_trichotomy (nameRank a) (nameRank b) with h' | h' | h'
  · exact h'
  · rw [nameRank_inj a b h'] at h; exact absurd h (String.lt_irrefl _)
  · exact absurd h (String.lt_asymm (name_lt_of_nameRank_lt b a h'))

theorem edgeKey_inj (e f : Edge Ty) (h : edgeKey nameRank nameWidth e = edgeKey nameRank nameWidth f) : e = f := by
  obtain ⟨s1, d1, i1⟩ := e
  obtain ⟨s2, d2, i2⟩ := f
  have hd1 := nameRank_lt_width d1
  have hd2 := nameRank_lt_width d2
  simp only [edgeKey, nameWidth] at h hd1 hd2
  -- a mixed-radix numeral: the flag is the parity, source and target the quotient and remainder by `nameWidth` > `nameRank`
  have hi : i1 = i2 := by
    cases i1 <;> cases i2
    case false.false | true.true => rfl
    case false.true | true.false =>
      simp only [Bool.false_eq_true, reduceIte] at h
      omega
  subst hi
  have hs : nameRank s1 = nameRank s2 := by omega
  have hd : nameRank d1 = nameRank d2 := by omega
  rw [nameRank_inj s1 s2 hs, nameRank_inj d1 d2 hd]

/-- the exported nodes are exactly the typeset's types, the exported edges exactly its
relations (identity relations only when `base_only`), each carrying its own style flag -/
theorem C19_content (b : Built Ty) (baseOnly : Bool) :
    (∀ t, t ∈ (exportModel nameRank nameWidth b baseOnly).nodes ↔ t ∈ b.nodes) ∧
    (∀ e, e ∈ (exportModel nameRank nameWidth b baseOnly).edges ↔
        e ∈ b.edges ∧ (baseOnly = true → e.inferential = false)) := by
  refine ⟨fun t => mem_sortBy _ _ _, fun e => ?_⟩
  simp only [exportModel]
  rw [mem_sortBy]
  cases baseOnly with
  | false => simp
  | true => simp [Built.baseEdges, List.mem_filter]

/-- for a parent-closed typeset the exported node and edge lists are *identical*
for every order in which the types were supplied -/
theorem C19_order (S S' : List Ty) (hp : S.Perm S') (nd : S.Nodup) (hg : Ty.Generic ∈ S)
    (pc : ParentClosedL declared S) (baseOnly : Bool) :
    ∃ b b', mkTypeset declared isGeneric S = .ok b ∧ mkTypeset declared isGeneric S' = .ok b' ∧
      exportModel nameRank nameWidth b baseOnly = exportModel nameRank nameWidth b' baseOnly := by
  refine ⟨_, _, C14.mkTypeset_closed nd hg pc,
    C14.mkTypeset_closed_perm hp nd hg pc, ?_⟩
  simp only [exportModel, closedBuilt, Built.baseEdges]
  congr 1
  · exact sortBy_eq_of_perm _ nameRank_inj hp
  · apply sortBy_eq_of_perm _ edgeKey_inj
    cases baseOnly with
    | false => exact presentEdges_perm hp
    | true => exact (presentEdges_perm hp).filter _

example : (mkTypeset declared isGeneric [Ty.String, Ty.Generic, Ty.Object]).toOption.map
    (fun b => (exportModel nameRank nameWidth b true).nodes) = some [Ty.Generic, Ty.Object, Ty.String] := by decide

end V.C19
