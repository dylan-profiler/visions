/-
  C20 — The LRU cache helper is transparent and bounded.
  All histories, all capacities ≥ 1, any key function, any wrapped function.
-/
import VProofs.Lemmas.LRUL
namespace V.C20
open V

variable {K V A : Type} [DecidableEq K]

/-- the cache after the calls `h`, starting from `c` -/
def after (key : A → K) (f : A → V) (c : LRU K V) (h : List A) : LRU K V := (LRU.run key f c h).2.1

theorem after_nil (key : A → K) (f : A → V) (c : LRU K V) : after key f c [] = c := rfl
theorem after_cons (key : A → K) (f : A → V) (c : LRU K V) (a : A) (h : List A) :
    after key f c (a :: h) = after key f (c.get key f a).2.1 h := by
  simp only [after, LRU.run]

theorem inv_refines_after (key : A → K) (f : A → V) (cap : Nat) (hcap : 1 ≤ cap) (h : List A) :
    ((after key f (LRU.empty cap) h).Inv key f ∧ (after key f (LRU.empty cap) h).cap = cap) ∧
      Refines (after key f (LRU.empty cap) h) (h.foldl (fun l a => touch l (key a)) []) := by
  suffices ∀ (c : LRU K V) (spec : List K), (c.Inv key f ∧ c.cap = cap) ∧ Refines c spec →
      ((after key f c h).Inv key f ∧ (after key f c h).cap = cap) ∧
        Refines (after key f c h) (h.foldl (fun l a => touch l (key a)) spec) from
    this _ [] ⟨⟨LRU.Inv.empty cap key f, rfl⟩, Refines.empty cap⟩
  induction h with
  | nil => exact fun _ _ hr => hr
  | cons a h ih =>
    intro c spec ⟨⟨hi, hc⟩, hr⟩
    have ⟨hi', hc'⟩ := LRU.inv_get c key f a (hc ▸ hcap) hi
    exact ih _ _ ⟨⟨hi', hc'.trans hc⟩, LRU.refines_get c key f a (hc ▸ hcap) hi.bounded spec hr⟩

/-- after every history the keys are distinct, there are at most `max_length`
entries, and every cached value is the wrapped function's value for an argument with that key -/
theorem C20_inv (key : A → K) (f : A → V) (cap : Nat) (hcap : 1 ≤ cap) (h : List A) :
    (after key f (LRU.empty cap) h).Inv key f ∧ (after key f (LRU.empty cap) h).cap = cap :=
  (inv_refines_after key f cap hcap h).1

theorem C20_bounded (key : A → K) (f : A → V) (cap : Nat) (hcap : 1 ≤ cap) (h : List A) :
    (after key f (LRU.empty cap) h).items.length ≤ cap := by
  have ⟨hi, hc⟩ := C20_inv key f cap hcap h
  have := hi.bounded
  omega

/-- with a key function that identifies arguments, every call returns
exactly what the wrapped function returns -/
theorem C20_transparent (key : A → K) (hinj : ∀ a b, key a = key b → a = b) (f : A → V)
    (c : LRU K V) (hcap : 1 ≤ c.cap) (hi : c.Inv key f) (a : A) :
    (c.get key f a).1 = some (f a) := by
  rw [LRU.get_eq c key f a hcap hi.bounded]
  cases hl : c.lookup (key a) with
  | none => rfl
  | some v =>
    -- the cached value was computed from an argument with the same key, that is, from `a`
    obtain ⟨a', hk, hv⟩ := hi.values _ (LRU.mem_of_lookup hl)
    cases hinj a' a hk
    exact congrArg some hv

theorem C20_transparent_history (key : A → K) (hinj : ∀ a b, key a = key b → a = b) (f : A → V)
    (cap : Nat) (hcap : 1 ≤ cap) (h : List A) (a : A) :
    ((after key f (LRU.empty cap) h).get key f a).1 = some (f a) := by
  have ⟨hi, hc⟩ := C20_inv key f cap hcap h
  exact C20_transparent key hinj f _ (by omega) hi a

/-- the wrapped function is called exactly when the key is absent -/
theorem C20_miss_only (key : A → K) (f : A → V) (c : LRU K V) (hcap : 1 ≤ c.cap)
    (hb : c.items.length ≤ c.cap) (a : A) :
    (c.get key f a).2.2 = !(c.keys.contains (key a)) := by
  rw [LRU.get_eq c key f a hcap hb]

/-- refinement: after every history the cached keys are the most recently used
distinct keys — the recency list is `evicted ++ cached`, and a key is only ever evicted from a full
cache, from the least-recently-used end -/
theorem C20_lru (key : A → K) (f : A → V) (cap : Nat) (hcap : 1 ≤ cap) (h : List A) :
    Refines (after key f (LRU.empty cap) h) (h.foldl (fun l a => touch l (key a)) []) :=
  (inv_refines_after key f cap hcap h).2

/-- capacity 0 is *not* totalised away: the very first call raises `KeyError` (model: `none`) — the entry just stored
is evicted at once, and the `__getitem__` that follows misses it -/
theorem C20_cap_zero (key : A → K) (f : A → V) (a : A) :
    ((LRU.empty 0 : LRU K V).get key f a).1 = none := rfl

example : (LRU.run (fun a : Nat => a) (fun a => a * 7 + 1) (LRU.empty 2) [1, 2, 1, 3, 2]).1
    = [some 8, some 15, some 8, some 22, some 15] := by decide
example : (after (fun a : Nat => a) (fun a => a * 7 + 1) (LRU.empty 2) [1, 2, 1, 3, 2]).keys = [3, 2] := by decide

end V.C20
