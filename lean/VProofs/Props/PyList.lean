/-
  The property list excludes Python lists from C02 and C16 (sibling exclusivity and upward closure fail there by design of
  that back end); what does hold for every list is C01 and C11.  The model (`VModel/PyList.lean`) is tied to the code by the
  list runner's correspondence on the `isinstance` facts of every generated element.
-/
import VProofs.Props.PyListTotal
namespace V.PyProps
open V V.Gen V.Py

theorem listSucc_eq (b : Built Ty) : listSucc b = (backend.ts (fun t => 32 - rank t) b).idSucc :=
  funext fun n => (backend.idSucc_eq _ b n).symm

/-- **C01 for lists**: for every typeset built from the relation table and EVERY sequence, detection returns the
sequence itself, every type on the reported path contains it, and no identity child of the answer contains it -/
theorem C01_list (b : Built Ty) (hrank : ∀ e ∈ b.edges, rank e.src < rank e.dst) (s : Seq)
    (hroot : containsL b.root s = true) :
    let res := ptraverse (listSucc b) 64 b.root s
    res.1 = s ∧ res.2.head? = some b.root ∧ (∀ t ∈ res.2, containsL t s = true) ∧
    (∀ r ∈ listSucc b (plast b.root res.2), containsL r.dst s = false) := by
  rw [listSucc_eq]
  obtain ⟨same, head, contained, _linked, mostSpecific⟩ := detect_sound_most_specific (backend.ts (fun t => 32 - rank t) b)
    (backend.ts_L0 _ b) (backend.ts_height _ b (Pd.height_of_rank hrank)) b.root 64 (Pd.fuel_ok _) s hroot
  exact ⟨same, head, contained, mostSpecific⟩

theorem C01_list_built (S : List Ty) (nd : S.Nodup) (hg : Ty.Generic ∈ S) (pc : ParentClosedL declared S)
    (hsub : ∀ t ∈ S, t ∈ completeSet) (s : Seq) :
    ∃ b, mkTypeset declared isGeneric S = .ok b ∧
      let res := ptraverse (listSucc b) 64 b.root s
      res.1 = s ∧ res.2.head? = some Ty.Generic ∧ (∀ t ∈ res.2, containsL t s = true) ∧
      (∀ r ∈ listSucc b (plast b.root res.2), containsL r.dst s = false) :=
  ⟨_, C14.mkTypeset_closed nd hg pc, C01_list _ (Pd.closed_fromTable nd hsub).rank s rfl⟩

/-- **membership of every type is invariant under reordering the elements** -/
theorem C11_membership_list (t : Ty) (l l' : Seq) (h : l.Perm l') : containsL t l = containsL t l' :=
  containsL_ss t l l' (.of_perm h)

theorem detect_ss (b : Built Ty) (f : Nat) (n : Ty) {l l' : Seq} (h : SameSet l l') :
    (ptraverse (listSucc b) f n l).2 = (ptraverse (listSucc b) f n l').2 :=
  listSucc_eq b ▸ detect_sim _ (backend.ts_L0 _ b) SameSet containsL_ss f n l l' h

/-- **detect_type is invariant under reordering the elements**, for every typeset -/
theorem C11_detect_list (b : Built Ty) (f : Nat) (n : Ty) (l l' : Seq) (h : l.Perm l') :
    (ptraverse (listSucc b) f n l).2 = (ptraverse (listSucc b) f n l').2 :=
  detect_ss b f n (.of_perm h)

def elemInt : Elem := { (default : Elem) with isInt := true, isNumber := true, nonNeg := true }
-- a list of one `int` is in Integer and in Count: an overlap of the kind that makes the property list exclude lists from C02
example : containsL .Integer [elemInt] = true ∧ containsL .Count [elemInt] = true := by decide

/-- **C11 (inference) for the list model, end to end**: two reorderings of a sequence passing `convCaughtL` are inferred along
the same path, and their casts are reorderings of each other.  Without `convCaughtL` Python's lazy `all(...)` makes the
*exception* a test escapes with depend on which raising element comes first; such sequences are the ones C09 lists. -/
theorem C11_infer_list (S : List Ty) (nd : S.Nodup) (hg : Ty.Generic ∈ S) (pc : ParentClosedL declared S)
    (hsub : ∀ t ∈ S, t ∈ completeSet) (s s' : Seq) (hp : s.Perm s') (h : convCaughtL s = true) :
    ∃ b d d' p, mkTypeset declared isGeneric S = .ok b ∧ traverse (graphOfL b) 64 b.root s () [] = .ok (d, p, ()) ∧
      traverse (graphOfL b) 64 b.root s' () [] = .ok (d', p, ()) ∧ d.Perm d' := by
  obtain ⟨d, d', p, _, h1, h2, _, h3, _⟩ := infer_rel_list List.Perm (hQss := fun _ _ => .of_perm)
    (hQx := fun src dst t ht x y r => xform_perm_list src dst t ht x y r) _ (Pd.closed_fromTable nd hsub) s s' hp h rfl
  exact ⟨_, d, d', p, C14.mkTypeset_closed nd hg pc, h1, h2, h3⟩

/-- **C11 (k-fold repetition), exact form**: a sequence and its (k+1)-fold repetition are inferred along the same path, and
the cast of the repetition is the repetition of the cast -/
theorem C11_infer_repeat_exact_list (S : List Ty) (nd : S.Nodup) (hg : Ty.Generic ∈ S) (pc : ParentClosedL declared S)
    (hsub : ∀ t ∈ S, t ∈ completeSet) (s : Seq) (k : Nat) (h : convCaughtL s = true) :
    ∃ b d p, mkTypeset declared isGeneric S = .ok b ∧ traverse (graphOfL b) 64 b.root s () [] = .ok (d, p, ()) ∧
      traverse (graphOfL b) 64 b.root (repeatSeq s k) () [] = .ok (repeatSeq d k, p, ()) := by
  obtain ⟨d, _, p, _, h1, h2, _, rfl, _⟩ := infer_rel_list (fun x y => y = repeatSeq x k)
    (hQss := fun x y e => e ▸ sameSet_repeat x k)
    (hQx := fun src dst t ht x y r e hr => ⟨repeatSeq r k, e ▸ xform_repeat_list k src dst t ht x r hr, rfl⟩)
    _ (Pd.closed_fromTable nd hsub) s _ rfl h rfl
  exact ⟨_, d, p, C14.mkTypeset_closed nd hg pc, h1, h2⟩

/-- **C11 (k-fold repetition) for the list model, end to end**: same path, and the casts have the same support -/
theorem C11_infer_repeat_list (S : List Ty) (nd : S.Nodup) (hg : Ty.Generic ∈ S) (pc : ParentClosedL declared S)
    (hsub : ∀ t ∈ S, t ∈ completeSet) (s : Seq) (k : Nat) (h : convCaughtL s = true) :
    ∃ b d d' p, mkTypeset declared isGeneric S = .ok b ∧ traverse (graphOfL b) 64 b.root s () [] = .ok (d, p, ()) ∧
      traverse (graphOfL b) 64 b.root (repeatSeq s k) () [] = .ok (d', p, ()) ∧ SameSet d d' := by
  obtain ⟨b, d, p, hb, h1, h2⟩ := C11_infer_repeat_exact_list S nd hg pc hsub s k h
  exact ⟨b, d, _, p, hb, h1, h2, sameSet_repeat d k⟩

example : [sNum (.fin 3 1) false, sNum (.fin 2 0) false].Perm [sNum (.fin 2 0) false, sNum (.fin 3 1) false] ∧
    convCaughtL [sNum (.fin 3 1) false, sNum (.fin 2 0) false] = true := ⟨List.Perm.swap _ _ _, by decide⟩

end V.PyProps
