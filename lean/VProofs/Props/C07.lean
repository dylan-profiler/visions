/-
  C07 on the pandas model:
    * `C07_empty`: an empty column belongs to none of the 22 types of `completeSet` but Generic, whatever its
      dtype — so every typeset answers Generic;
    * `C07_native_*`: a column with at least one value (Integer, Count: a non-empty column) whose dtype lies in a
      family is recognised by the family's type whatever the width / nullable variant (the dtype table has one row
      per family, regenerated from the installed pandas and checked against several widths by the translator);
    * `C07_accepts_float_as_integer`, `C07_accepts_complex_as_float`: the numeric coercion tests accept *exactly* the
      columns whose values are of the narrower family (float with trailing .0 ⇒ Integer, zero-imaginary complex ⇒ Float),
      with missing values mixed in anywhere;
    * `C07_accepts_string_ip / _uuid / _email / _geometry`: the test of a string encoding accepts *exactly* the columns
      on whose every non-missing value the element parser succeeds (uuid, e-mail: given that the strings are truthy;
      geometry: and the parsed geometry is truthy), with missing values mixed in anywhere.
  The element parsers are data of the model, so which string encodes which value is not a theorem.  That, the string
  encodings with no theorem here (Boolean, Float, Complex, DateTime, Path, URL), the cast values, and the full grid of
  18 families × encodings × null patterns are left to the family runner on the real code: PARTIAL.
-/
import VProofs.Lemmas.PandasRel
import VModel.Generated.Typesets
namespace V.C07
open V V.Gen V.Pd

theorem C07_empty (t : Ty) (ht : t ∈ completeSet) (hne : t ≠ Ty.Generic) (c : Column) (he : c.cells = []) :
    containsB t c = false := by
  -- every type of the set but Generic asks for a non-empty column or for a value
  have hs : shapeOf t ≠ .any := (by decide : ∀ t ∈ completeSet, t ≠ Ty.Generic → shapeOf t ≠ .any) t ht hne
  have : shapeB t c = false := Bool.eq_false_iff.mpr fun hb => by
    cases h : shapeOf t with
    | any => exact hs h
    | nonEmpty => exact (shapeB_nonEmpty h).mp hb he
    | hasValue => exact ((shapeB_hasValue h).mp hb).ne_nil he
  rw [containsB_eq, this]; rfl

theorem C07_native_integer (c : Column) (hne : c.cells ≠ [])
    (hd : c.dtype = .fam .int ∨ c.dtype = .fam .uint ∨ c.dtype = .fam .Int ∨ c.dtype = .fam .UInt) :
    integerContains c = true := by
  refine containsB_iff (t := .Integer).mpr ⟨(shapeB_nonEmpty rfl).mpr hne, ?_, fun _ _ _ => rfl⟩
  rcases hd with h | h | h | h <;> rw [h] <;> decide

theorem C07_native_count (c : Column) (hne : c.cells ≠ []) (hd : c.dtype = .fam .uint ∨ c.dtype = .fam .UInt) :
    countContains c = true := by
  refine containsB_iff (t := .Count).mpr ⟨(shapeB_nonEmpty rfl).mpr hne, ?_, fun _ _ _ => rfl⟩
  rcases hd with h | h <;> rw [h] <;> decide

theorem C07_native_float (c : Column) (hv : HasValue c) (hd : c.dtype = .fam .float ∨ c.dtype = .fam .Float) :
    floatContains c = true := by
  refine containsB_iff (t := .Float).mpr ⟨(shapeB_hasValue rfl).mpr hv, ?_, fun _ _ _ => rfl⟩
  rcases hd with h | h <;> rw [h] <;> decide

theorem C07_native_boolean (c : Column) (hv : HasValue c) (hd : c.dtype = .fam .bool ∨ c.dtype = .fam .boolean) :
    booleanContains c = true := by
  refine containsB_iff (t := .Boolean).mpr ⟨(shapeB_hasValue rfl).mpr hv, ?_, fun _ _ _ => rfl⟩
  rcases hd with h | h <;> rw [h] <;> decide

theorem C07_native_datetime (c : Column) (hv : HasValue c) (hd : c.dtype = .fam .datetime ∨ c.dtype = .fam .datetimetz) :
    datetimeContains c = true := by
  refine containsB_iff (t := .DateTime).mpr ⟨(shapeB_hasValue rfl).mpr hv, ?_, fun _ _ _ => rfl⟩
  rcases hd with h | h <;> rw [h] <;> decide

theorem C07_accepts_float_as_integer (c : Column) (hv : HasValue c) :
    floatIsInteger c = .ok true ↔ ∀ x ∈ c.cells, x.null = false → ∃ v, x.pay = .float v ∧ v.isInt64 = true :=
  handleNulls_iff c hv fun d _ => by
    simp only [Except.ok.injEq, List.all_eq_true]
    exact forall₂_congr fun x _ => isInt64_pay x

theorem C07_accepts_complex_as_float (c : Column) (hv : HasValue c) :
    complexIsFloat c = .ok true ↔ ∀ x ∈ c.cells, x.null = false → ∃ re im, x.pay = .complex re im ∧ im.isZero = true :=
  handleNulls_iff c hv fun d _ => by
    simp only [Except.ok.injEq, List.all_eq_true]
    exact forall₂_congr fun x _ => zeroIm_pay x

example : floatIsInteger ⟨.fam .float, [Cell.ofFloat (.fin 12 0), Cell.missing .nan, Cell.ofFloat (.fin (-7) 0)], ["0", "1", "2"], "None"⟩
    = .ok true := by rfl

/-- **IP addresses as strings**: accepted iff `ip_address` parses every non-missing value -/
theorem C07_accepts_string_ip (c : Column) (hv : HasValue c) :
    stringIsIp c = .ok true ↔ ∀ x ∈ c.cells, x.null = false → ∃ f, x.str = some f ∧ f.ip.isOk = true :=
  handleNulls_iff c hv fun d _ => (coercion_iff (fun _ => ite_ne_ok_true _ _) d).trans (and_iff_left rfl)

theorem seriesAll_of_truthy {d : Column} (h : ∀ x ∈ d.cells, x.truth = .ok true) : seriesAll d = .ok true := by
  simp only [seriesAll, Except.ok.injEq, List.all_eq_true]
  intro x hx; rw [h x hx]

/-- **UUIDs as strings**: accepted iff `uuid.UUID` parses every non-missing value (and the strings are truthy) -/
theorem C07_accepts_string_uuid (c : Column) (hv : HasValue c)
    (htruthy : ∀ x ∈ c.cells, x.null = false → x.truth = .ok true) :
    stringIsUuid c = .ok true ↔ ∀ x ∈ c.cells, x.null = false → ∃ f, x.str = some f ∧ f.uuid.isOk = true :=
  handleNulls_iff c hv fun d hd => (coercion_iff (fun _ => ite_ne_ok_true _ _) d).trans
    (and_iff_left (seriesAll_of_truthy fun x hx => htruthy x (hd x hx).1 (hd x hx).2))

/-- **e-mail addresses as strings**: accepted iff `FQDA(*s.split('@', 1))` builds for every non-missing value (and the strings are truthy) -/
theorem C07_accepts_string_email (c : Column) (hv : HasValue c)
    (htruthy : ∀ x ∈ c.cells, x.null = false → x.truth = .ok true) :
    stringIsEmail c = .ok true ↔ ∀ x ∈ c.cells, x.null = false → ∃ f, x.str = some f ∧ f.email.isOk = true :=
  handleNulls_iff c hv fun d hd => (coercion_iff (fun _ => ite_ne_ok_true _ _) d).trans
    (and_iff_left (seriesAll_of_truthy fun x hx => htruthy x (hd x hx).1 (hd x hx).2))

/-- **geometries as WKT strings**: accepted iff `wkt.loads` gives a truthy geometry for every non-missing value -/
theorem C07_accepts_string_geometry (c : Column) (hv : HasValue c) :
    stringIsGeometry c = .ok true ↔ ∀ x ∈ c.cells, x.null = false → wktTruthy x = true :=
  handleNulls_iff c hv fun d _ => geomGo_iff _ d.cells

end V.C07
