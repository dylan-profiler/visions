/-
  C17 — Spark columns are typed from their schema alone.

  The Spark `contains_op` table is regenerated from the source on every run
  (`Generated/SparkTable.lean`: which `pyspark.sql.types` classes each registered *and imported*
  predicate accepts, and that every predicate body reads nothing but `.schema`).  `sparkContains`
  and `sparkDetect` take the column's data type class as their only data argument, so independence
  of rows, nullability, column name and position holds by construction of the model and is what
  the Spark correspondence runner checks of the code.  Partial: "triggers no Spark job" is runtime
  behaviour, observed by the runner, not provable here.
-/
import VModel.Spark
import VModel.Generated.Typesets
import VProofs.Props.C14
import VProofs.Lemmas.Refine
import VProofs.Lemmas.Table
namespace V.C17
open V V.Gen

/-- the documented mapping (README / property text) -/
def docType : SparkTy → Ty
  | .ByteType | .ShortType | .IntegerType | .LongType => .Integer
  | .FloatType | .DoubleType | .DecimalType => .Float
  | .BooleanType => .Boolean
  | .StringType => .String
  | .DateType => .Date
  | .TimestampType => .DateTime
  | .ArrayType | .MapType | .StructType => .Object
  | _ => .Generic

def parentOf (t : Ty) : Option Ty := ((declared t).find? (fun r => !r.inferential)).map (·.src)

/-- the same function as `Pd.parentOf`, whose lemmas (`Pd.parentOf_decl`) are used for it -/
theorem parentOf_eq : parentOf = Pd.parentOf := rfl

/-- `t` and its identity ancestors, nearest first, as far as the fuel reaches.  The statements take fuel 24, the number of
shipped types; the chain is much shorter: `rank` falls along it and is at most 8 (`Pd.rank_le`). -/
def ancestors : Nat → Ty → List Ty
  | 0, t => [t]
  | f + 1, t => match parentOf t with
    | none => [t]
    | some p => t :: ancestors f p

def nearest (S : List Ty) (t : Ty) : Ty := ((ancestors 24 t).find? (fun a => S.contains a)).getD Ty.Generic

/-- every registered Spark predicate reads only the schema (AST check by the translator) -/
theorem C17_schema_only : sparkSchemaOnly = true := by decide

/-- The Spark table, evaluated once per Spark data type: the shipped types that accept it are the documented type
and its identity ancestors, no two with the same parent.  `C17_table` and `C17_mutex` read it off. -/
theorem accepted_eq_ancestors (dt : SparkTy) :
    completeSet.filter (fun t => sparkContains t dt)
        = completeSet.filter (fun t => (ancestors 24 (docType dt)).contains t) ∧
      ((completeSet.filter (fun t => (ancestors 24 (docType dt)).contains t)).map parentOf).Nodup := by
  revert dt; decide

/-- **the Spark predicates are nested sets forming a chain**: the shipped types containing a column of Spark type `dt`
are exactly the documented type and its identity ancestors (a chain, hence L1; L2 is `C17_mutex`).  Over the 22 types of
CompleteSet (the umbrella types Numeric and Sparse belong to no shipped typeset and overlap their siblings by
definition) -/
theorem C17_table (dt : SparkTy) (t : Ty) :
    t ∈ completeSet → (sparkContains t dt = true ↔ t ∈ ancestors 24 (docType dt)) := by
  intro ht
  simpa [ht] using congrArg (t ∈ ·) (accepted_eq_ancestors dt).1

def builtOf (S : List Ty) : Option (Built Ty) := (mkTypeset declared isGeneric S).toOption

/-- in CompleteSet nothing is lost: the answer *is* the documented type -/
theorem C17_complete_exact (dt : SparkTy) : nearest completeSet (docType dt) = docType dt := by
  revert dt; decide

/-- L2 for the Spark table: at most one identity child of any type accepts a given Spark data type -/
theorem C17_mutex (n : Ty) (dt : SparkTy) :
    ((completeSet.filter (fun c => parentOf c == some n)).filter (fun c => sparkContains c dt)).length ≤ 1 := by
  obtain ⟨htable, hparents⟩ := accepted_eq_ancestors dt
  have h := filter_le_one_of_nodup_key _ (fun c => parentOf c == some n) parentOf hparents
    fun _ _ _ _ ha hb => (eq_of_beq ha).trans (eq_of_beq hb).symm
  rw [← htable, List.filter_filter] at h
  rw [List.filter_filter]
  simpa only [Bool.and_comm] using h

theorem mem_sparkSucc {b : Built Ty} {n : Ty} {r : PRel Ty SparkTy} :
    r ∈ sparkSucc b n ↔ ∃ e ∈ b.edges, e.inferential = false ∧ e.src = n ∧
      r = { src := e.src, dst := e.dst, inferential := false,
            guard := fun dt => sparkContains e.dst dt, xform := id } := by
  simp only [sparkSucc, Built.baseEdges, List.mem_map, List.mem_filter, Bool.not_eq_true', beq_iff_eq]
  exact ⟨fun ⟨e, ⟨⟨he, hi⟩, hs⟩, hr⟩ => ⟨e, he, hi, hs, hr.symm⟩,
    fun ⟨e, he, hi, hs, hr⟩ => ⟨e, ⟨⟨he, hi⟩, hs⟩, hr.symm⟩⟩

/-- the cast result is the DataFrame itself: detection uses identity relations only -/
theorem C17_identity (b : Built Ty) (dt : SparkTy) :
    (ptraverse (sparkSucc b) 64 b.root dt).1 = dt := by
  refine (ptraverse_inv (sparkSucc b) (fun _ y => y = dt) (fun n x r h hr => ?_) 64 b.root dt rfl).1
  obtain ⟨e, _, _, _, rfl⟩ := mem_sparkSucc.mp (pfirst_eq_some hr).1
  exact h

/-- the Spark back end: detection only -/
def sparkBackend : Backend Ty SparkTy := Backend.ofContains sparkContains

def sparkTS (b : Built Ty) : TS Ty SparkTy := sparkBackend.ts (fun t => 32 - rank t) b

theorem sparkTS_L0 (b : Built Ty) : (sparkTS b).L0 := sparkBackend.ts_L0 _ b

theorem sparkTS_idSucc (b : Built Ty) : (sparkTS b).idSucc = sparkSucc b :=
  funext fun n => sparkBackend.idSucc_eq _ b n

/-- **C17, for every typeset**: for every duplicate-free parent-closed supply list `S` of the 22 types containing Generic
(any order) and every Spark data type, the type detected for a column of that data type is the nearest identity ancestor
of the documented type (or that type itself) that the typeset includes. -/
theorem C17_general (S : List Ty) (nd : S.Nodup) (hg : Ty.Generic ∈ S) (pc : ParentClosedL declared S)
    (hsub : ∀ t ∈ S, t ∈ completeSet) (dt : SparkTy) :
    ∃ b, mkTypeset declared isGeneric S = .ok b ∧
      let t := sparkDetectType b dt
      t ∈ S ∧ t ∈ ancestors 24 (docType dt) ∧
      (∀ c ∈ S, parentOf c = some t → c ∉ ancestors 24 (docType dt)) := by
  obtain ⟨b, hb, hr, _, ft, hedges⟩ := Pd.built_fromTable S nd hg pc hsub
  refine ⟨b, hb, ?_⟩
  obtain ⟨_, _, hall, _, hmost⟩ := detect_sound_most_specific (sparkTS b) (sparkTS_L0 b)
    (sparkBackend.ts_height _ b (Pd.height_of_rank ft.rank)) b.root 64 (Pd.fuel_ok _) dt
    (by rw [hr]; rfl)
  have hN : Nodes (sparkTS b) (· ∈ S) Ty.Generic := sparkBackend.nodes _ C14.tableWF hg pc hedges
  have hlast := plast_in_nodes (sparkTS b).idSucc (· ∈ S) (fun n r hn hm => hN.step n r hn (mem_idSucc.mp hm).1)
    64 b.root dt (hr ▸ hg)
  rw [sparkTS_idSucc] at hall hmost hlast
  -- `sparkDetectType` is `plast` of this walk by definition
  change sparkDetectType b dt ∈ S at hlast
  refine ⟨hlast, (C17_table dt _ (hsub _ hlast)).mp (hall _ (plast_mem b.root _ (ptraverse_path_ne_nil _ _ _ _))), ?_⟩
  intro c hcS hpar hanc
  -- the identity edge from the answer to `c` is in the typeset, so the walk would not have stopped
  have : sparkContains c dt = false := hmost _ (mem_sparkSucc.mpr ⟨⟨sparkDetectType b dt, c, false⟩,
    hedges ▸ mem_presentEdges.mpr ⟨hcS, hlast, Pd.parentOf_decl (parentOf_eq ▸ hpar)⟩, rfl, rfl, rfl⟩)
  rw [(C17_table dt c (hsub c hcS)).mpr hanc] at this
  cases this

/-- Going up from `x`, the first type in `S` is `t`; `x` itself is not in `S` unless it is `t`: its parent would be in `S`
with it, hence (induction) be `t`, and `x` would be a child of `t` in `S` on the chain, which `hno` excludes. -/
theorem find_ancestors {S : List Ty} (pcS : ∀ c ∈ S, ∀ p, parentOf c = some p → p ∈ S) {t : Ty} (ht : t ∈ S) :
    ∀ f x, t ∈ ancestors f x → (∀ c ∈ S, parentOf c = some t → c ∉ ancestors f x) →
      (x ∈ S → x = t) ∧ (ancestors f x).find? (fun a => S.contains a) = some t := by
  intro f
  induction f with
  | zero =>
    intro x hm _
    cases List.mem_singleton.mp hm
    exact ⟨fun _ => rfl, by simp [ancestors, ht]⟩
  | succ f ih =>
    intro x hm hno
    simp only [ancestors] at hm hno ⊢
    cases hp : parentOf x with
    | none =>
      rw [hp] at hm
      cases List.mem_singleton.mp hm
      exact ⟨fun _ => rfl, by simp [ht]⟩
    | some p =>
      rw [hp] at hm hno
      have up := fun (hne : t ≠ x) =>
        ih p ((List.mem_cons.mp hm).resolve_left hne) fun c hc hcp hca => hno c hc hcp (List.mem_cons_of_mem _ hca)
      have hx : x ∈ S → x = t := fun hx => Decidable.byContradiction fun hne =>
        hno x hx ((up (Ne.symm hne)).1 (pcS x hx p hp) ▸ hp) List.mem_cons_self
      refine ⟨hx, ?_⟩
      by_cases hxt : t = x
      · rw [← hxt, List.find?_cons_of_pos (by simpa using ht)]
      · rw [List.find?_cons_of_neg (by simpa using fun h => hxt (hx h).symm)]
        exact (up hxt).2

/-- **C17_mapping, for every typeset** of `C17_general`: detection yields the documented type, or its
nearest included ancestor -/
theorem C17_nearest {S : List Ty} (ok : S.Nodup ∧ Ty.Generic ∈ S ∧ ParentClosedL declared S)
    (hsub : ∀ t ∈ S, t ∈ completeSet) (dt : SparkTy) :
    (builtOf S).map (fun b => sparkDetectType b dt) = some (nearest S (docType dt)) := by
  obtain ⟨b, hb, ht, hanc, hno⟩ := C17_general S ok.1 ok.2.1 ok.2.2 hsub dt
  simp only [builtOf, hb, Except.toOption, Option.map_some, nearest]
  rw [(find_ancestors (fun c hc p hp => ok.2.2 c hc ⟨p, false⟩ (Pd.parentOf_decl (parentOf_eq ▸ hp)) rfl) ht 24 _ hanc hno).2]
  rfl

theorem C17_mapping_standard (dt : SparkTy) :
    (builtOf standardSet).map (fun b => sparkDetectType b dt) = some (nearest standardSet (docType dt)) :=
  C17_nearest C14.standard_ok (fun t ht => C14.C14_nested.2 t (C14.C14_nested.1 t ht)) dt
theorem C17_mapping_standard_date (dt : SparkTy) :
    (builtOf (standardSet ++ [Ty.Date])).map (fun b => sparkDetectType b dt)
      = some (nearest (standardSet ++ [Ty.Date]) (docType dt)) :=
  C17_nearest (by decide) (by decide) dt
theorem C17_mapping_geometry (dt : SparkTy) :
    (builtOf geometrySet).map (fun b => sparkDetectType b dt) = some (nearest geometrySet (docType dt)) :=
  C17_nearest C14.geometry_ok C14.C14_nested.2 dt
theorem C17_mapping_complete (dt : SparkTy) :
    (builtOf completeSet).map (fun b => sparkDetectType b dt) = some (nearest completeSet (docType dt)) :=
  C17_nearest C14.complete_ok (fun _ h => h) dt

end V.C17
