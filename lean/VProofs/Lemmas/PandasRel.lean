/-
  The 14 inference relations of the pandas model (`Row`), each described once: what its accepting test says about the
  non-missing cells, what its transformer builds.
-/
import VProofs.Lemmas.PandasL
import VProofs.Lemmas.PandasCells
namespace V.Pd
open V V.Gen V.C06

def wktTruthy (x : Cell) : Bool :=
  match x.str with
  | some f => (match f.wkt with | .ok (t, _) => t | .raises _ => false)
  | none => false

/-- a new relation extends the case analyses over the rows: `strObj_ok`, `lands_pandas`, `acceptsStr_pred`,
`good_of_outCol`, `outputs_outCol`, `guardsOk_of_outCol`, `nulls_pandas`, `table_bag`, `C06_shape`.  One out of `String`
or `Object` also extends `strPred` / `strParsers` or `objPred` / `objChildren` (`outOf_string`, `outOf_object` check the
lists against the table by `decide`), and `decodeStr` if its target is object-valued. -/
inductive Row (o : ColOracle) : Ty → Ty → (Column → R Bool) → (Column → R Column) → Prop
  | objectBoolean : Row o .Object .Boolean objectIsBoolean objectToBoolean
  | stringBoolean : Row o .String .Boolean stringIsBoolean stringToBoolean
  | stringComplex : Row o .String .Complex stringIsComplex stringToComplex
  | stringDatetime : Row o .String .DateTime (stringIsDatetime o) (stringToDatetime o)
  | stringFloat : Row o .String .Float stringIsFloat stringToFloat
  | complexFloat : Row o .Complex .Float complexIsFloat complexToFloat
  | floatInteger : Row o .Float .Integer floatIsInteger floatToInteger
  | datetimeDate : Row o .DateTime .Date datetimeIsDate datetimeToDate
  | stringGeometry : Row o .String .Geometry stringIsGeometry stringToGeometry
  | stringIp : Row o .String .IPAddress stringIsIp stringToIp
  | stringPath : Row o .String .Path stringIsPath stringToPath
  | stringUrl : Row o .String .URL stringIsUrl stringToUrl
  | stringUuid : Row o .String .UUID stringIsUuid stringToUuid
  | stringEmail : Row o .String .EmailAddress stringIsEmail stringToEmail

section
variable {o : ColOracle} {s d : Ty} {g : Column → R Bool} {t : Column → R Column}

theorem Row.xform_eq (r : Row o s d g t) : xform o s d = some t := by cases r <;> rfl

-- `split` goes through the 15 alternatives of the `match`; `cases s <;> cases d` would go through 24 × 24 pairs
theorem Row.of_guard (h : guard o s d = some g) : ∃ t, Row o s d g t := by
  unfold guard at h
  split at h <;> cases h <;> exact ⟨_, by constructor⟩

theorem Row.of_xform (h : xform o s d = some t) : ∃ g, Row o s d g t := by
  unfold xform at h
  split at h <;> cases h <;> exact ⟨_, by constructor⟩

theorem Row.of (hg : guard o s d = some g) (ht : xform o s d = some t) : Row o s d g t := by
  obtain ⟨t', r⟩ := Row.of_guard hg
  cases r.xform_eq.symm.trans ht
  exact r

end

theorem handleNulls_all {f : Column → R Bool} {c : Column} {Q : Cell → Prop} (h : handleNulls f c = .ok true)
    (hf : ∀ d : Column, f d = .ok true → ∀ x ∈ d.cells, Q x) : ∀ x ∈ c.cells, x.null = false → Q x :=
  fun x hx hn => hf _ (handleNulls_ok_true h) x (mem_nonNull.mpr ⟨hx, hn⟩)

/-- with at least one value the converse holds too; the body `f` is only asked about columns made of non-missing
cells of `c` (the uuid / e-mail tests need that) -/
theorem handleNulls_iff {f : Column → R Bool} {P : Cell → Prop} (c : Column) (hv : HasValue c)
    (hf : ∀ d : Column, (∀ x ∈ d.cells, x ∈ c.cells ∧ x.null = false) → (f d = .ok true ↔ ∀ x ∈ d.cells, P x)) :
    handleNulls f c = .ok true ↔ ∀ x ∈ c.cells, x.null = false → P x := by
  rw [handleNulls_of_hasValue hv, hf _ fun x hx => mem_nonNull.mp hx]
  exact ⟨fun h x hx hn => h x (mem_nonNull.mpr ⟨hx, hn⟩), fun h x hx => h x (mem_nonNull.mp hx).1 (mem_nonNull.mp hx).2⟩

theorem handleNulls_all_ok {P : Cell → Bool} {c : Column}
    (h : handleNulls (fun c => .ok (c.cells.all P)) c = .ok true) : ∀ x ∈ c.cells, x.null = false → P x = true :=
  handleNulls_all h fun _ hd => List.all_eq_true.mp (Except.ok.inj hd)

theorem isInt64_pay (x : Cell) :
    (match x.pay with | .float v => v.isInt64 | _ => false) = true ↔ ∃ v, x.pay = .float v ∧ v.isInt64 = true := by
  cases x.pay <;> simp

theorem zeroIm_pay (x : Cell) :
    (match x.pay with | .complex _ im => im.isZero | _ => false) = true ↔
      ∃ re im, x.pay = .complex re im ∧ im.isZero = true := by
  cases x.pay <;> simp [and_assoc]

theorem midnight_pay (x : Cell) :
    (match x.pay with | .ts _ ns _ => ns == 0 | _ => false) = true ↔ ∃ day tz, x.pay = .ts day 0 tz := by
  cases x.pay <;> simp

theorem accepts_objectIsBoolean {c : Column} (h : objectIsBoolean c = .ok true) :
    ∀ x ∈ c.cells, x.null = false → x.inBoolSet = .ok true := by
  intro x hx hn
  have := handleNulls_all_ok h x hx hn
  cases hb : x.inBoolSet with
  | ok b => rw [hb] at this; rw [show b = true from this]
  | raises cls => rw [hb] at this; cases this

theorem accepts_complexIsFloat {c : Column} (h : complexIsFloat c = .ok true) :
    ∀ x ∈ c.cells, x.null = false → ∃ re im, x.pay = .complex re im ∧ im.isZero = true :=
  fun x hx hn => (zeroIm_pay x).mp (handleNulls_all_ok h x hx hn)

theorem accepts_floatIsInteger {c : Column} (h : floatIsInteger c = .ok true) :
    ∀ x ∈ c.cells, x.null = false → ∃ v, x.pay = .float v ∧ v.isInt64 = true :=
  fun x hx hn => (isInt64_pay x).mp (handleNulls_all_ok h x hx hn)

theorem accepts_datetimeIsDate {c : Column} (h : datetimeIsDate c = .ok true) :
    ∀ x ∈ c.cells, x.null = false → ∃ day tz, x.pay = .ts day 0 tz :=
  fun x hx hn => (midnight_pay x).mp (handleNulls_all_ok h x hx hn)

theorem pred_boolean {c : Column} (hacc : stringIsBoolean c = .ok true) :
    ∀ x ∈ c.cells, x.null = false → ∃ f, x.str = some f ∧ strPred .Boolean f = true := by
  simp only [stringIsBoolean] at hacc
  split at hacc
  · cases hacc
  · refine handleNulls_all hacc fun d hd x hxd => ?_
    simp only [Except.ok.injEq, List.any_eq_true] at hd
    obtain ⟨i, _, hall⟩ := hd
    have := List.all_eq_true.mp hall x hxd
    cases hs : x.str with
    | none => rw [hs] at this; cases this
    | some f =>
      rw [hs] at this
      cases hk : f.boolKey with
      | none => simp only [hk] at this; cases this
      | some jb => exact ⟨f, rfl, by simp [strPred, hk]⟩

/-- String→Float accepts only if `float()` raised on no non-missing cell and some result is not NaN (`float_contains(coerced)`) -/
theorem stringIsFloat_spec {c : Column} (h : stringIsFloat c = .ok true) :
    firstRaise ((nonNull c).cells.map (cellFloat c.dtype)) = none ∧
    ∃ v ∈ oks ((nonNull c).cells.map (cellFloat c.dtype)), v.isNan = false := by
  have ⟨hq, h2⟩ := guard_match_none (handleNulls_ok_true h)
  rw [nonNull_dtype] at hq h2
  refine ⟨hq, ?_⟩
  dsimp only at h2
  split at h2
  · cases h2
  · rename_i hne
    simp only [Bool.or_eq_true, not_or, List.isEmpty_iff] at hne
    obtain ⟨v, hv⟩ := List.exists_mem_of_ne_nil _ hne.2
    exact ⟨v, (List.mem_filter.mp hv).1, by simpa using (List.mem_filter.mp hv).2⟩

/-- an element parser applied to a cell: the parser result `sel` of a string; anything else raises.  The model writes
this `match` inline in each test; the `strOut` lemmas meet those by unfolding. -/
def strOut {α : Type} (sel : StrFacts → Outcome α) (cls : String) (x : Cell) : Outcome α :=
  match x.str with
  | some f => sel f
  | none => .raises cls

theorem strOut_some {α : Type} {sel : StrFacts → Outcome α} {cls : String} {x : Cell} {f : StrFacts} (h : x.str = some f) :
    strOut sel cls x = sel f := by
  rw [strOut, h]

theorem strOut_ok_iff {α : Type} {sel : StrFacts → Outcome α} {cls : String} {x : Cell} :
    (∃ a, strOut sel cls x = .ok a) ↔ ∃ f, x.str = some f ∧ (sel f).isOk = true := by
  unfold strOut
  cases x.str with
  | none => simp
  | some f => cases hq : sel f <;> simp [Outcome.isOk, hq]

theorem firstRaise_none_iff_parser {α : Type} (cells : List Cell) (sel : StrFacts → Outcome α) (cls : String) :
    firstRaise (cells.map (strOut sel cls)) = none ↔ ∀ x ∈ cells, ∃ f, x.str = some f ∧ (sel f).isOk = true := by
  rw [firstRaise_none_iff, List.forall_mem_map]
  exact forall₂_congr fun _ _ => strOut_ok_iff

/-- `coercion_test` (`r` is `ok true`) and `coercion_true_test` (`r` is `series.all()`) of an element parser -/
theorem coercion_iff {α : Type} {sel : StrFacts → Outcome α} {cls : String} {k : String → R Bool} {r : R Bool}
    (hk : ∀ cls, k cls ≠ .ok true) (d : Column) :
    (match firstRaise (d.cells.map (strOut sel cls)) with | some cls => k cls | _ => r) = .ok true ↔
      (∀ x ∈ d.cells, ∃ f, x.str = some f ∧ (sel f).isOk = true) ∧ r = .ok true :=
  (match_firstRaise hk).trans (and_congr_left' (firstRaise_none_iff_parser d.cells sel cls))

/-- an element conversion that is `strOut sel cls` on every non-missing cell: if nothing raised, every non-missing cell is
a string on which `sel` succeeded -/
theorem str_of_firstRaise_none {α : Type} {e : Cell → Outcome α} {sel : StrFacts → Outcome α} {cls : String} {l : List Cell}
    (he : ∀ x, x.null = false → e x = strOut sel cls x)
    (h : firstRaise (l.map e) = none) : ∀ x ∈ l, x.null = false → ∃ f, x.str = some f ∧ (sel f).isOk = true :=
  fun x hx hn => strOut_ok_iff.mp (he x hn ▸ (firstRaise_none_iff _).mp h _ (List.mem_map_of_mem hx))

theorem pred_float {c : Column} (hacc : stringIsFloat c = .ok true) :
    ∀ x ∈ c.cells, x.null = false → ∃ f, x.str = some f ∧ strPred .Float f = true := fun x hx hn =>
  str_of_firstRaise_none (sel := (·.floatVal)) (fun x hn => by simp only [cellFloat, hn]; rfl) (stringIsFloat_spec hacc).1
    x (mem_nonNull.mpr ⟨hx, hn⟩) hn

theorem pred_url {c : Column} (hacc : stringIsUrl c = .ok true) :
    ∀ x ∈ c.cells, x.null = false → ∃ f, x.str = some f ∧ strPred .URL f = true := by
  refine handleNulls_all hacc fun d hd x hxd => ?_
  have ⟨hq, hr⟩ := guard_match_none hd
  obtain ⟨f, hf, _⟩ := (firstRaise_none_iff_parser d.cells (·.url) "AttributeError").mp hq x hxd
  have := List.all_eq_true.mp (Except.ok.inj hr) _ (List.mem_map_of_mem hxd)
  simp only [hf] at this
  exact ⟨f, hf, this⟩

theorem geomGo_iff (caught : String → Bool) (l : List Cell) :
    stringIsGeometry.go caught l = .ok true ↔ ∀ x ∈ l, wktTruthy x = true := by
  induction l with
  | nil => simp [stringIsGeometry.go]
  | cons a l ih =>
    -- an exception never gives `True` (`ite_ne_ok_true`); a falsy geometry ends the scan with `False`
    rw [List.forall_mem_cons, ← ih, stringIsGeometry.go, wktTruthy]
    cases a.str with
    | none => simp [ite_ne_ok_true]
    | some f =>
      dsimp only
      cases f.wkt with
      | raises cls => simp [ite_ne_ok_true]
      | ok v => cases ht : v.1 <;> simp [ht]

theorem pred_geometry {c : Column} (hacc : stringIsGeometry c = .ok true) :
    ∀ x ∈ c.cells, x.null = false → ∃ f, x.str = some f ∧ strPred .Geometry f = true := by
  refine handleNulls_all hacc fun d hd x hx => ?_
  have := (geomGo_iff _ d.cells).mp hd x hx
  cases hs : x.str with
  | none => simp [wktTruthy, hs] at this
  | some f =>
    simp only [wktTruthy, hs] at this
    refine ⟨f, rfl, ?_⟩
    cases hw : f.wkt with
    | ok v => rw [hw] at this; simpa only [strPred, hw] using this
    | raises cls => rw [hw] at this; cases this

def winOut : Cell → Outcome (Bool × String) := strOut (·.winAbs) "TypeError"
def pxOut : Cell → Outcome (Bool × String) := strOut (·.posixAbs) "TypeError"

/-- `string_is_path` accepts only if the Windows parser raised on no value and, unless every value is an absolute
Windows path, every value is an absolute POSIX path -/
theorem stringIsPath_spec {c : Column} (hg : stringIsPath c = .ok true) :
    firstRaise (c.dropna.cells.map winOut) = none ∧
    ((c.dropna.cells.map winOut).all isAbsO = false → (c.dropna.cells.map pxOut).all isAbsO = true) := by
  have ⟨hq, h2⟩ := guard_match_none (handleNulls_ok_true hg)
  rw [← nonNull_cells]
  refine ⟨hq, fun hw => ?_⟩
  dsimp only at h2
  rw [if_neg (Bool.not_eq_true _ ▸ hw)] at h2
  exact Except.ok.inj (guard_match_none h2).2

theorem pred_path {c : Column} (hacc : stringIsPath c = .ok true) :
    ∀ x ∈ c.cells, x.null = false → ∃ f, x.str = some f ∧ strPred .Path f = true := by
  obtain ⟨hq, hflav⟩ := stringIsPath_spec hacc
  intro x hx hn
  have hin : x ∈ c.dropna.cells := mem_dropna.mpr ⟨hx, hn⟩
  obtain ⟨f, hs, _⟩ := (firstRaise_none_iff_parser _ (·.winAbs) "TypeError").mp hq x hin
  refine ⟨f, hs, ?_⟩
  simp only [strPred, Bool.or_eq_true]
  cases hall : (c.dropna.cells.map winOut).all isAbsO with
  | true =>
    left
    have := List.all_eq_true.mp hall (winOut x) (List.mem_map_of_mem hin)
    rwa [winOut, strOut_some hs] at this
  | false =>
    right
    have := List.all_eq_true.mp (hflav hall) (pxOut x) (List.mem_map_of_mem hin)
    rwa [pxOut, strOut_some hs] at this

/-- String→Complex accepts only if every cell (missing or not) went through `complex()`, and some non-NaN result has a
non-zero imaginary part -/
theorem stringIsComplex_spec {c : Column} (hacc : stringIsComplex c = .ok true) :
    firstRaise (c.cells.map cellComplex) = none ∧
    ∃ p ∈ oks (c.cells.map cellComplex), (p.1.isNan || p.2.isNan) = false ∧ p.2.isZero = false := by
  simp only [stringIsComplex] at hacc
  have ⟨hq, hr⟩ := guard_match_none hacc
  refine ⟨hq, ?_⟩
  split at hr
  · cases hr
  · rename_i hall
    have hall' : ((oks (c.cells.map cellComplex)).filter (fun p => !(p.1.isNan || p.2.isNan))).all (fun p => p.2.isZero) = false := by
      simpa using hall
    rw [List.all_eq_false] at hall'
    obtain ⟨p, hp, hz⟩ := hall'
    have ⟨hm, hnn⟩ := List.mem_filter.mp hp
    exact ⟨p, hm, by simpa using hnn, by simpa using hz⟩

theorem str_of_cellComplex {l : List Cell} (h : firstRaise (l.map cellComplex) = none) :
    ∀ x ∈ l, x.null = false → ∃ f, x.str = some f ∧ strPred .Complex f = true :=
  str_of_firstRaise_none (sel := (·.complexVal)) (fun x hn => by simp only [cellComplex, hn]; rfl) h

theorem pred_complex {c : Column} (hacc : stringIsComplex c = .ok true) :
    ∀ x ∈ c.cells, x.null = false → ∃ f, x.str = some f ∧ strPred .Complex f = true :=
  str_of_cellComplex (stringIsComplex_spec hacc).1

/-- the fallback every shipped transformer passes to `applyStr`: a missing value is kept, any other non-string raises -/
theorem strOr_keep {p : StrFacts → Outcome Cell} {cls : String} {x y : Cell}
    (h : (match x.str with | some f => p f | none => if x.null then .ok x else .raises cls) = .ok y) :
    (x.str = none ∧ x.null = true ∧ y = x) ∨ ∃ f, x.str = some f ∧ p f = .ok y := by
  cases hs : x.str with
  | some f => rw [hs] at h; exact Or.inr ⟨f, rfl, h⟩
  | none =>
    rw [hs] at h
    cases hn : x.null with
    | true => simp only [hn, if_true, Outcome.ok.injEq] at h; exact Or.inl ⟨rfl, rfl, h.symm⟩
    | false => simp [hn] at h

/-- the cell `String → d` builds from the parser results of one string, for the six object-valued targets -/
inductive Parsed : Ty → StrFacts → Cell → Prop
  | geometry {f b r} : f.wkt = .ok (b, r) → Parsed .Geometry f (geomCell r)
  | ip {f cls r} : f.ip = .ok (cls, r) → Parsed .IPAddress f (ipCell cls r)
  | windows {f b r} : f.winAbs = .ok (b, r) → Parsed .Path f (purePathCell "PureWindowsPath" b r)
  | posix {f b r} : f.posixAbs = .ok (b, r) → Parsed .Path f (purePathCell "PurePosixPath" b r)
  | url {f n s r} : f.url = .ok (n, s, r) → Parsed .URL f (urlCell n s r)
  | uuid {f r} : f.uuid = .ok r → Parsed .UUID f (uuidCell r)
  | email {f r} : f.email = .ok r → Parsed .EmailAddress f (emailCell r)

def strObjTargets : List Ty := [.Geometry, .IPAddress, .Path, .URL, .UUID, .EmailAddress]

/-- a column built by `applyStr`, `P` relating the parser results of a string to the cell made of them -/
def StrMapped (P : StrFacts → Cell → Prop) : Column → Column → Prop :=
  CellMapped (fun x y => (x.str = none ∧ x.null = true ∧ y = x) ∨ ∃ f, x.str = some f ∧ P f y) .object

theorem strMapped_of_applyStr {P : StrFacts → Cell → Prop} {c c' : Column} {p : StrFacts → Outcome Cell} {cls : String}
    (hp : ∀ f y, p f = .ok y → P f y)
    (h : applyStr c p (fun x => if x.null then .ok x else .raises cls) = .ok c') : StrMapped P c c' := by
  have m := mapCells_spec (applyStr_eq c p _ ▸ h)
  refine { m with cells := m.cells.imp fun x y ⟨a, ha, hy⟩ => ?_ }
  cases hy
  rcases strOr_keep ha with kept | ⟨f, hf, hy⟩
  · exact Or.inl kept
  · exact Or.inr ⟨f, hf, hp f _ hy⟩

/-- `string_to_path` is `applyStr` with the Windows parser if every value is an absolute Windows path, with the POSIX
parser otherwise -/
theorem stringToPath_ok {c c' : Column} (h : stringToPath c = .ok c') :
    ((c.dropna.cells.map winOut).all isAbsO = true ∧
      applyStr c (fun f => match f.winAbs with | .ok (b, r) => .ok (purePathCell "PureWindowsPath" b r) | .raises cls => .raises cls)
        (fun x => if x.null then .ok x else .raises "TypeError") = .ok c') ∨
    ((c.dropna.cells.map winOut).all isAbsO = false ∧
      applyStr c (fun f => match f.posixAbs with | .ok (b, r) => .ok (purePathCell "PurePosixPath" b r) | .raises cls => .raises cls)
        (fun x => if x.null then .ok x else .raises "TypeError") = .ok c') := by
  simp only [stringToPath] at h
  split at h
  · cases h
  · split at h
    · rename_i hall; exact Or.inl ⟨hall, h⟩
    · rename_i hall; exact Or.inr ⟨(Bool.not_eq_true _).mp hall, h⟩

theorem strObj_ok {o : ColOracle} {d : Ty} {g : Column → R Bool} {t : Column → R Column} {c c' : Column}
    (r : Row o .String d g t) (hd : d ∈ strObjTargets) (h : t c = .ok c') : StrMapped (Parsed d) c c' := by
  cases r
  case stringBoolean | stringComplex | stringDatetime | stringFloat => exact absurd hd (by decide)
  case' stringPath => rcases stringToPath_ok h with ⟨_, h⟩ | ⟨_, h⟩
  -- each parser is a `match` on one parser result whose `ok` arm builds the cell `Parsed` names (`stringPath` twice:
  -- the two flavours)
  case stringGeometry | stringIp | stringPath | stringPath | stringUrl | stringUuid | stringEmail =>
    refine strMapped_of_applyStr (fun f y hy => ?_) h
    split at hy
    · cases hy; constructor; assumption
    · cases hy

end V.Pd
