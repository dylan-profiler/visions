/-
  The generated enumerations are finite: a `∀` over one of them is decided by running through its
  list `all`, so a fact about the whole table is one kernel evaluation (`decide`).
-/
import VModel.Generated.Relations
import VModel.Generated.SparkTable
namespace V.Gen

def decidableForallOfAll {α : Type} {all : List α} (h : ∀ a, a ∈ all) (P : α → Prop) [DecidablePred P] :
    Decidable (∀ a, P a) :=
  decidable_of_iff (∀ a ∈ all, P a) ⟨fun H a => H a (h a), fun H a _ => H a⟩

theorem Ty.mem_all (t : Ty) : t ∈ Ty.all := by cases t <;> decide

instance (P : Ty → Prop) [DecidablePred P] : Decidable (∀ t, P t) := decidableForallOfAll Ty.mem_all P

theorem SparkTy.mem_all (dt : SparkTy) : dt ∈ SparkTy.all := by cases dt <;> decide

instance (P : SparkTy → Prop) [DecidablePred P] : Decidable (∀ dt, P dt) :=
  decidableForallOfAll SparkTy.mem_all P

end V.Gen
