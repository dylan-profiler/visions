/-
  Functions of a list that read only which elements occur in it: membership and the relation tests of the three back-end
  models are built from them, which is why a type is a property of the bag of values (C11), and in fact of its support.
  `find?` and `filter` when at most one element qualifies: sibling exclusivity (C02).
-/
namespace V

section
variable {α : Type} {l l' : List α} (h : ∀ x, x ∈ l ↔ x ∈ l')
include h

theorem all_congr_mem (p : α → Bool) : l.all p = l'.all p := by
  simp only [List.all_eq, h]

theorem any_congr_mem (p : α → Bool) : l.any p = l'.any p := by
  simp only [List.any_eq, h]

theorem isEmpty_congr_mem : l.isEmpty = l'.isEmpty := by
  rw [Bool.eq_iff_iff]; simp only [List.isEmpty_iff, List.eq_nil_iff_forall_not_mem, h]

theorem filter_congr_mem (p : α → Bool) (x : α) : x ∈ l.filter p ↔ x ∈ l'.filter p := by
  simp only [List.mem_filter, h]

theorem map_congr_mem {β : Type} (f : α → β) (y : β) : y ∈ l.map f ↔ y ∈ l'.map f := by
  simp only [List.mem_map, h]

end

theorem mem_flatten_replicate {α : Type} {k : Nat} {l : List α} (x : α) :
    x ∈ (List.replicate (k + 1) l).flatten ↔ x ∈ l := by
  simp [List.mem_flatten, List.mem_replicate]

theorem all_false_of_mem {α : Type} {p : α → Bool} {l : List α} {x : α} (hx : x ∈ l) (hp : p x = false) :
    l.all p = false :=
  List.all_eq_false.mpr ⟨x, hx, by rw [hp]; exact Bool.false_ne_true⟩

theorem eq_of_mem_of_length_le_one {α : Type} {l : List α} (h : l.length ≤ 1) {a b : α}
    (ha : a ∈ l) (hb : b ∈ l) : a = b :=
  match l, h with
  | [_], _ => (List.mem_singleton.mp ha).trans (List.mem_singleton.mp hb).symm

theorem find?_eq_some_of_le_one {α : Type} {p : α → Bool} {l : List α} {a : α}
    (h1 : (l.filter p).length ≤ 1) (ha : a ∈ l) (hpa : p a = true) : l.find? p = some a := by
  have hmem : a ∈ l.filter p := List.mem_filter.mpr ⟨ha, hpa⟩
  rw [← List.head?_filter]
  obtain ⟨b, t, e⟩ := List.exists_cons_of_ne_nil (List.ne_nil_of_mem hmem)
  rw [e, eq_of_mem_of_length_le_one h1 hmem (e ▸ List.mem_cons_self)]; rfl

theorem find?_eq_of_perm_of_le_one {α : Type} (p : α → Bool) {l₁ l₂ : List α}
    (h : l₁.Perm l₂) (h1 : (l₁.filter p).length ≤ 1) : l₁.find? p = l₂.find? p := by
  cases hf : l₁.find? p with
  | none =>
    rw [List.find?_eq_none] at hf
    exact (List.find?_eq_none.mpr fun x hx => hf x (h.mem_iff.mpr hx)).symm
  | some a =>
    exact (find?_eq_some_of_le_one ((h.filter p).length_eq ▸ h1)
      (h.mem_iff.mp (List.mem_of_find?_eq_some hf)) (List.find?_some hf)).symm

theorem filter_le_one_of_nodup_key {α β : Type} [DecidableEq β] (l : List α) (p : α → Bool) (key : α → β)
    (hnd : (l.map key).Nodup) (h : ∀ a ∈ l, ∀ b ∈ l, p a = true → p b = true → key a = key b) :
    (l.filter p).length ≤ 1 := by
  induction l with
  | nil => simp
  | cons a l ih =>
    rw [List.map_cons, List.nodup_cons] at hnd
    obtain ⟨hna, hnl⟩ := hnd
    simp only [List.filter_cons]
    by_cases hpa : p a = true
    · simp only [hpa, if_true, List.length_cons]
      have : l.filter p = [] := by
        rw [List.filter_eq_nil_iff]
        intro b hb hpb
        have := h a List.mem_cons_self b (List.mem_cons_of_mem _ hb) hpa hpb
        exact hna (by rw [this]; exact List.mem_map_of_mem hb)
      simp [this]
    · simp only [hpa, Bool.false_eq_true, if_false]
      exact ih hnl (fun x hx y hy => h x (List.mem_cons_of_mem _ hx) y (List.mem_cons_of_mem _ hy))

theorem prefix_dropLast_append {α : Type} {p q : List α} {t : α} (hp : p.getLast? = some t) (hq : q.head? = some t) :
    p <+: p.dropLast ++ q := by
  obtain ⟨p, rfl⟩ := List.getLast?_eq_some_iff.mp hp
  obtain ⟨q, rfl⟩ := List.head?_eq_some_iff.mp hq
  rw [List.dropLast_concat]
  exact (List.prefix_append_right_inj p).mpr (List.cons_prefix_cons.mpr ⟨rfl, List.nil_prefix⟩)

theorem eq_of_mem_of_nodup_keys {α β : Type} {l : List (α × β)} (hn : (l.map (·.1)).Nodup) {k : α} {a b : β}
    (ha : (k, a) ∈ l) (hb : (k, b) ∈ l) : a = b := by
  induction l with
  | nil => cases ha
  | cons x xs ih =>
    rw [List.map_cons, List.nodup_cons] at hn
    rcases List.mem_cons.mp ha with ha | ha <;> rcases List.mem_cons.mp hb with hb | hb
    · exact (Prod.mk.inj (ha.trans hb.symm)).2
    · exact absurd (ha ▸ List.mem_map_of_mem (f := (·.1)) hb) hn.1
    · exact absurd (hb ▸ List.mem_map_of_mem (f := (·.1)) ha) hn.1
    · exact ih hn.2 ha hb

theorem if_not_false (a b : Bool) : (if !a then false else b) = (a && b) := by cases a <;> rfl

theorem all_and {α : Type} (p q : α → Bool) (l : List α) : (l.all p && l.all q) = l.all (fun x => p x && q x) := by
  rw [Bool.eq_iff_iff]
  simp only [Bool.and_eq_true, List.all_eq_true, imp_and, forall_and]

theorem all_true {α : Type} (l : List α) : (l.all fun _ => true) = true := by simp

theorem or_eq_true_imp {a b : Bool} : (a || b) = true ↔ (a = false → b = true) := by cases a <;> simp

end V
