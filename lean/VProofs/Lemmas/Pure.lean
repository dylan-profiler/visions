/-
  Inductions follow `ptraverse`'s own cases (`fun_induction`): no fuel, no relation accepts, `r` is the first relation
  that accepts.
-/
import VModel.Engine
import VProofs.Lemmas.ListL
namespace V

variable {T D : Type}

theorem pfirst_eq_some {rs : List (PRel T D)} {x : D} {r : PRel T D} (h : pfirst rs x = some r) :
    r ∈ rs ∧ r.guard x = true :=
  ⟨List.mem_of_find?_eq_some h, List.find?_some (p := fun r : PRel T D => r.guard x) h⟩

theorem pfirst_eq_none {rs : List (PRel T D)} {x : D} :
    pfirst rs x = none ↔ ∀ r ∈ rs, r.guard x = false := by
  simp [pfirst]

theorem pfirst_congr {rs : List (PRel T D)} {x y : D}
    (h : ∀ r ∈ rs, r.guard x = r.guard y) : pfirst rs x = pfirst rs y := by
  induction rs with
  | nil => rfl
  | cons r rs ih =>
    simp only [pfirst, List.find?_cons, h r List.mem_cons_self]
    cases r.guard y with
    | true => rfl
    | false => exact ih fun r hr => h r (List.mem_cons_of_mem _ hr)

theorem ptraverse_of_none {s : T → List (PRel T D)} {n : T} {x : D} (f : Nat)
    (h : pfirst (s n) x = none) : ptraverse s (f + 1) n x = (x, [n]) := by
  simp only [ptraverse, h]

theorem ptraverse_of_some {s : T → List (PRel T D)} {n : T} {x : D} {r : PRel T D} (f : Nat)
    (h : pfirst (s n) x = some r) :
    ptraverse s (f + 1) n x =
      ((ptraverse s f r.dst (r.xform x)).1, n :: (ptraverse s f r.dst (r.xform x)).2) := by
  simp only [ptraverse, h]

theorem ptraverse_path_ne_nil (s : T → List (PRel T D)) (f : Nat) (n : T) (x : D) :
    (ptraverse s f n x).2 ≠ [] := by
  fun_cases ptraverse s f n x <;> simp

theorem ptraverse_head (s : T → List (PRel T D)) (f : Nat) (n : T) (x : D) :
    (ptraverse s f n x).2.head? = some n := by
  fun_cases ptraverse s f n x <;> rfl

/-- `lastOr` of the engine, under the name the pure statements use: the last type of a path, which is what
`detect_type` / `infer_type` report -/
def plast (d : T) (p : List T) : T := p.getLast?.getD d

theorem getLast?_eq_plast (d : T) {p : List T} (h : p ≠ []) : p.getLast? = some (plast d p) := by
  obtain ⟨q, t, rfl⟩ : ∃ q t, p = q ++ [t] := ⟨_, _, (List.dropLast_concat_getLast h).symm⟩
  simp [plast]

theorem plast_concat (d t : T) (p : List T) : plast d (p ++ [t]) = t := by
  simp [plast]

theorem plast_cons (d d' n : T) {p : List T} (h : p ≠ []) : plast d (n :: p) = plast d' p := by
  obtain ⟨q, t, rfl⟩ : ∃ q t, p = q ++ [t] := ⟨_, _, (List.dropLast_concat_getLast h).symm⟩
  rw [← List.cons_append, plast_concat, plast_concat]

theorem plast_mem (d : T) (p : List T) (h : p ≠ []) : plast d p ∈ p :=
  List.mem_of_getLast? (getLast?_eq_plast d h)

theorem plast_cons_ptraverse (d m : T) (s : T → List (PRel T D)) (f : Nat) (n : T) (x : D) :
    plast d (m :: (ptraverse s f n x).2) = plast n (ptraverse s f n x).2 :=
  plast_cons d n m (ptraverse_path_ne_nil s f n x)

theorem lt_fuel {a b f : Nat} (h : a < b) (hf : b < f + 1) : a < f :=
  Nat.lt_of_lt_of_le h (Nat.le_of_lt_add_one hf)

theorem ptraverse_inv (s : T → List (PRel T D)) (Inv : T → D → Prop)
    (hstep : ∀ n x r, Inv n x → pfirst (s n) x = some r → Inv r.dst (r.xform x))
    (f : Nat) (n : T) (x : D) (h : Inv n x) :
    Inv (plast n (ptraverse s f n x).2) (ptraverse s f n x).1 ∧
      ∀ t ∈ (ptraverse s f n x).2, ∃ y, Inv t y := by
  fun_induction ptraverse s f n x with
  | case1 n x | case2 _ n x => exact ⟨h, fun t ht => ⟨x, List.mem_singleton.mp ht ▸ h⟩⟩
  | case3 f n x r hr res ih =>
    have ⟨h1, h2⟩ := ih (hstep n x r h hr)
    refine ⟨plast_cons_ptraverse .. ▸ h1, fun t ht => ?_⟩
    rcases List.mem_cons.mp ht with rfl | ht
    · exact ⟨x, h⟩
    · exact h2 t ht

theorem ptraverse_nodes (s : T → List (PRel T D)) (N : T → Prop) (hstep : ∀ n r, N n → r ∈ s n → N r.dst)
    (f : Nat) (n : T) (x : D) (hn : N n) : ∀ t ∈ (ptraverse s f n x).2, N t := fun t ht =>
  have ⟨_, h⟩ := (ptraverse_inv s (fun t _ => N t) (fun n _ r h hr => hstep n r h (pfirst_eq_some hr).1) f n x hn).2 t ht
  h

theorem plast_in_nodes (s : T → List (PRel T D)) (N : T → Prop) (hstep : ∀ n r, N n → r ∈ s n → N r.dst)
    (f : Nat) (n : T) (x : D) (hn : N n) : N (plast n (ptraverse s f n x).2) :=
  ptraverse_nodes s N hstep f n x hn _ (plast_mem n _ (ptraverse_path_ne_nil s f n x))

theorem ptraverse_stops (s : T → List (PRel T D)) (h : T → Nat)
    (hh : ∀ n r, r ∈ s n → h r.dst < h n) (f : Nat) (n : T) (x : D) (hf : h n < f) :
    pfirst (s (plast n (ptraverse s f n x).2)) (ptraverse s f n x).1 = none := by
  fun_induction ptraverse s f n x with
  | case1 => exact absurd hf (Nat.not_lt_zero _)
  | case2 _ _ _ hn => exact hn
  | case3 f n x r hr res ih =>
    exact plast_cons_ptraverse .. ▸
      ih (lt_fuel (hh n r (pfirst_eq_some hr).1) hf)

theorem ptraverse_fuel (s : T → List (PRel T D)) (h : T → Nat)
    (hh : ∀ n r, r ∈ s n → h r.dst < h n) (f f' : Nat) (n : T) (x : D) (hf : h n < f) (hf' : h n < f') :
    ptraverse s f n x = ptraverse s f' n x := by
  fun_induction ptraverse s f n x generalizing f' with
  | case1 => exact absurd hf (Nat.not_lt_zero _)
  | case2 f n x hn =>
    obtain ⟨k, rfl⟩ := Nat.exists_eq_add_one_of_ne_zero (Nat.ne_zero_of_lt hf')
    rw [ptraverse_of_none k hn]
  | case3 f n x r hr res ih =>
    obtain ⟨k, rfl⟩ := Nat.exists_eq_add_one_of_ne_zero (Nat.ne_zero_of_lt hf')
    have hlt := hh n r (pfirst_eq_some hr).1
    rw [ptraverse_of_some k hr, ← ih k (lt_fuel hlt hf) (lt_fuel hlt hf')]

theorem ptraverse_sim (succ : T → List (PRel T D)) (R : D → D → Prop)
    (hg : ∀ n, ∀ r ∈ succ n, ∀ x y, R x y → r.guard x = r.guard y)
    (hx : ∀ n, ∀ r ∈ succ n, ∀ x y, R x y → r.guard x = true → R (r.xform x) (r.xform y)) :
    ∀ f n x y, R x y →
      (ptraverse succ f n x).2 = (ptraverse succ f n y).2 ∧ R (ptraverse succ f n x).1 (ptraverse succ f n y).1 := by
  intro f n x y h
  fun_induction ptraverse succ f n x generalizing y with
  | case1 => exact ⟨rfl, h⟩
  | case2 f n x hn =>
    rw [ptraverse_of_none f ((pfirst_congr fun r hr => hg n r hr x y h) ▸ hn)]; exact ⟨rfl, h⟩
  | case3 f n x r hr res ih =>
    rw [ptraverse_of_some f ((pfirst_congr fun r hr => hg n r hr x y h) ▸ hr)]
    have ⟨h1, h2⟩ := ih _ (hx n r (pfirst_eq_some hr).1 x y h (pfirst_eq_some hr).2)
    exact ⟨congrArg (n :: ·) h1, h2⟩

structure TS (T D : Type) where
  succ : T → List (PRel T D)
  contains : T → D → Bool
  /-- a height: it falls along every relation (`TS.WF.height`), so a walk whose fuel exceeds the height of its start
  stops because no relation accepts, not because the fuel ran out (`ptraverse_stops`, `ptraverse_fuel`) -/
  h : T → Nat

def TS.idSucc (ts : TS T D) : T → List (PRel T D) := pbase ts.succ

inductive IdPath (ts : TS T D) : T → T → Prop where
  | refl (a : T) : IdPath ts a a
  | step {a b : T} (r : PRel T D) : r ∈ ts.idSucc a → IdPath ts r.dst b → IdPath ts a b

/-- The local obligations L0–L3 (DESIGN §2) of one type system, relative to an invariant `I` on data: the
well-formedness / library hypotheses under which they hold (`fun _ => True` when none are needed). -/
structure TS.WF (ts : TS T D) (I : D → Prop) : Prop where
  /-- acyclicity (C14) -/
  height : ∀ n r, r ∈ ts.succ n → ts.h r.dst < ts.h n
  /-- L0 -/
  idGuard : ∀ n r, r ∈ ts.succ n → r.inferential = false →
      (∀ x, r.guard x = ts.contains r.dst x) ∧ (∀ x, r.xform x = x)
  /-- L1 (C16) -/
  nested : ∀ n r, r ∈ ts.succ n → r.inferential = false → ∀ x, I x → ts.contains r.dst x → ts.contains n x
  /-- L2 (C02) -/
  mutex : ∀ n x, I x → ts.contains n x → ((ts.succ n).filter (·.guard x)).length ≤ 1
  /-- L3 (C03) -/
  lands : ∀ n r x, r ∈ ts.succ n → I x → ts.contains n x → r.guard x = true → ts.contains r.dst (r.xform x)
  closed : ∀ n r x, r ∈ ts.succ n → I x → ts.contains n x → r.guard x = true → I (r.xform x)

theorem mem_idSucc {ts : TS T D} {n : T} {r : PRel T D} :
    r ∈ ts.idSucc n ↔ r ∈ ts.succ n ∧ r.inferential = false := by
  simp [TS.idSucc, pbase, List.mem_filter]

theorem idSucc_sublist (ts : TS T D) (n : T) : (ts.idSucc n).Sublist (ts.succ n) := List.filter_sublist

/-- `N` is the node set of a built typeset: it holds the root, no relation leaves it, and each of its types hangs
under the root by identity relations (`Backend.nodes`: what `build_graph` makes of a parent-closed list of types). -/
structure Nodes (ts : TS T D) (N : T → Prop) (root : T) : Prop where
  rootIn : N root
  step : ∀ n r, N n → r ∈ ts.succ n → N r.dst
  idpath : ∀ t, N t → IdPath ts root t

theorem TS.WF.step {ts : TS T D} {I : D → Prop} (wf : ts.WF I) (n : T) (x : D) (r : PRel T D)
    (h : I x ∧ ts.contains n x = true) (hr : pfirst (ts.succ n) x = some r) :
    I (r.xform x) ∧ ts.contains r.dst (r.xform x) = true :=
  have ⟨hm, hg⟩ := pfirst_eq_some hr
  ⟨wf.closed n r x hm h.1 h.2 hg, wf.lands n r x hm h.1 h.2 hg⟩

/-- Order independence (C02): the walk does not depend on the order of the adjacency lists at the nodes `N` it visits. -/
theorem walk_eq_of_perm_on (ts : TS T D) {I : D → Prop} (wf : ts.WF I) (N : T → Prop)
    (hN : ∀ n r, N n → r ∈ ts.succ n → N r.dst)
    (s₂ : T → List (PRel T D)) (hp : ∀ n, N n → (ts.succ n).Perm (s₂ n))
    (f : Nat) (n : T) (x : D) (hn : N n) (hI : I x) (hc : ts.contains n x = true) :
    ptraverse ts.succ f n x = ptraverse s₂ f n x := by
  have hf : ∀ n x, N n → I x → ts.contains n x = true → pfirst (ts.succ n) x = pfirst (s₂ n) x :=
    fun n x hn hI hc => find?_eq_of_perm_of_le_one _ (hp n hn) (wf.mutex n x hI hc)
  fun_induction ptraverse ts.succ f n x with
  | case1 => rfl
  | case2 f n x hnone => rw [ptraverse_of_none f (hf n x hn hI hc ▸ hnone)]
  | case3 f n x r hr res ih =>
    have ⟨hm, hg⟩ := pfirst_eq_some hr
    rw [ptraverse_of_some f (hf n x hn hI hc ▸ hr),
      ← ih (hN n r hn hm) (wf.closed n r x hm hI hc hg) (wf.lands n r x hm hI hc hg)]

/-- C03, first half: inference lands in its last type, and stops because no relation accepts there -/
theorem infer_lands (ts : TS T D) {I : D → Prop} (wf : ts.WF I) :
    ∀ f n x, ts.h n < f → I x → ts.contains n x = true →
      let res := ptraverse ts.succ f n x
      ts.contains (plast n res.2) res.1 = true ∧ pfirst (ts.succ (plast n res.2)) res.1 = none ∧ I res.1 :=
  fun f n x hf hI hc =>
    have ⟨⟨h1, h2⟩, _⟩ := ptraverse_inv ts.succ (fun n x => I x ∧ ts.contains n x = true) wf.step f n x ⟨hI, hc⟩
    ⟨h2, ptraverse_stops ts.succ ts.h wf.height f n x hf, h1⟩

theorem idpath_contains (ts : TS T D) {I : D → Prop} (wf : ts.WF I) {a t : T} (hp : IdPath ts a t) (d : D)
    (hI : I d) (hT : ts.contains t d = true) : ts.contains a d = true := by
  induction hp with
  | refl => exact hT
  | step r hr _ ih =>
    have ⟨hm, hi⟩ := mem_idSucc.mp hr
    exact wf.nested _ r hm hi d hI (ih hT)

theorem idpath_snoc (ts : TS T D) {a m t : T} (hp : IdPath ts a m) (r : PRel T D)
    (hr : r ∈ ts.idSucc m) (hd : r.dst = t) : IdPath ts a t := by
  induction hp with
  | refl a => exact IdPath.step r hr (hd ▸ IdPath.refl _)
  | step r' hr' _ ih => exact IdPath.step r' hr' (ih hr)

theorem idpath_of_mem_path (ts : TS T D) (f : Nat) (n : T) (x : D) :
    ∀ t ∈ (ptraverse ts.idSucc f n x).2, IdPath ts n t :=
  ptraverse_nodes ts.idSucc (IdPath ts n) (fun _ r hm hr => idpath_snoc ts hm r hr rfl) f n x (.refl n)

/-- The walk from an identity ancestor `a` of `t`, on a member `d` of `t`, runs down the chain to `t` with `d`
unchanged and continues as the walk from `t` (C03 second half, C04, C16).  `s` is any adjacency between the
identity relations and all relations: exclusivity leaves the chain's relation as the only one that accepts. -/
theorem follows_chain (ts : TS T D) {I : D → Prop} (wf : ts.WF I) (s : T → List (PRel T D))
    (hs : ∀ n r, r ∈ ts.idSucc n → r ∈ s n) (hs' : ∀ n, (s n).Sublist (ts.succ n))
    {t : T} {d : D} (hI : I d) (hT : ts.contains t d = true) {a : T} (hp : IdPath ts a t) :
    ∀ f, ts.h a < f → ∃ pre f', ts.h t < f' ∧
      ptraverse s f a d = ((ptraverse s f' t d).1, pre ++ (ptraverse s f' t d).2) := by
  induction hp with
  | refl a => exact fun f hf => ⟨[], f, hf, rfl⟩
  | @step a b r hr hrest ih =>
    intro f hf
    have ⟨hm, hi⟩ := mem_idSucc.mp hr
    have ⟨hg, hx⟩ := wf.idGuard a r hm hi
    have hcd := idpath_contains ts wf hrest d hI hT
    have hfind : pfirst (s a) d = some r :=
      find?_eq_some_of_le_one
        (Nat.le_trans ((hs' a).filter _).length_le (wf.mutex a d hI (wf.nested a r hm hi d hI hcd)))
        (hs a r hr) (by rw [hg]; exact hcd)
    obtain ⟨f, rfl⟩ := Nat.exists_eq_add_one_of_ne_zero (Nat.ne_zero_of_lt hf)
    obtain ⟨pre, f', hf', e⟩ := ih hT f (lt_fuel (wf.height a r hm) hf)
    exact ⟨a :: pre, f', hf', by rw [ptraverse_of_some f hfind, hx, e]; rfl⟩

theorem follows_chain_stop (ts : TS T D) {I : D → Prop} (wf : ts.WF I) (s : T → List (PRel T D))
    (hs : ∀ n r, r ∈ ts.idSucc n → r ∈ s n) (hs' : ∀ n, (s n).Sublist (ts.succ n))
    {t : T} {d : D} (hI : I d) (hT : ts.contains t d = true) (hmax : pfirst (s t) d = none)
    {a : T} (hp : IdPath ts a t) (f : Nat) (hf : ts.h a < f) :
    (ptraverse s f a d).1 = d ∧ plast a (ptraverse s f a d).2 = t := by
  obtain ⟨pre, f', hf', e⟩ := follows_chain ts wf s hs hs' hI hT hp f hf
  obtain ⟨k, rfl⟩ := Nat.exists_eq_add_one_of_ne_zero (Nat.ne_zero_of_lt hf')
  rw [e, ptraverse_of_none k hmax]
  exact ⟨rfl, plast_concat a t pre⟩

theorem detect_follows_chain (ts : TS T D) {I : D → Prop} (wf : ts.WF I) (t : T) (d : D)
    (hI : I d) (hT : ts.contains t d = true) (hmax : pfirst (ts.idSucc t) d = none) :
    ∀ a, IdPath ts a t → ∀ f, ts.h a < f →
      (ptraverse ts.idSucc f a d).1 = d ∧ plast a (ptraverse ts.idSucc f a d).2 = t :=
  fun _ hp => follows_chain_stop ts wf ts.idSucc (fun _ _ h => h) (idSucc_sublist ts) hI hT hmax hp

/-- The forward half of `C16_chain` (hence the name, which the checks of C16 register); also why a sub-typeset's
detection meets every type of the larger path that it holds (`C15_detect`). -/
theorem C16.on_path_of_contains (ts : TS T D) {I : D → Prop} (wf : ts.WF I) (x : D) (hI : I x) (t : T)
    (hT : ts.contains t x = true) :
    ∀ a, IdPath ts a t → ∀ f, ts.h a < f → t ∈ (ptraverse ts.idSucc f a x).2 := by
  intro a hp f hf
  obtain ⟨pre, f', _, e⟩ := follows_chain ts wf ts.idSucc (fun _ _ h => h) (idSucc_sublist ts) hI hT hp f hf
  obtain ⟨q, hq⟩ := List.head?_eq_some_iff.mp (ptraverse_head ts.idSucc f' t x)
  simp [e, hq]

end V
