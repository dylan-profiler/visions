/-
  A back end as the engine sees it: membership per type, and the test and transformer of each inference relation.
-/
import VProofs.Lemmas.Full
import VProofs.Lemmas.Refine
import VProofs.Lemmas.GraphL
namespace V

variable {T D : Type}

/-- the engine relation of one edge: an identity edge tests membership in its target and returns the data; an
inference edge looks its test and transformer up (no test: `NotImplementedError`; no transformer: identity) -/
def tableRel (contains : T → D → Bool) (guard : T → T → Option (D → Except Err Bool))
    (xform : T → T → Option (D → Except Err D)) (e : Edge T) : Rel T D Unit :=
  if e.inferential then
    { src := e.src, dst := e.dst, inferential := true,
      guard := fun c s => match guard e.src e.dst with
        | some g => (g c).map (fun v => (v, s))
        | none => .error .notImplemented,
      xform := fun c s => match xform e.src e.dst with
        | some t => (t c).map (fun v => (v, s))
        | none => .ok (c, s) }
  else
    { src := e.src, dst := e.dst, inferential := false,
      guard := fun c s => .ok (contains e.dst c, s),
      xform := fun c s => .ok (c, s) }

structure Backend (T D : Type) where
  contains : T → D → Bool
  guard : T → T → Option (D → Except Err Bool)
  xform : T → T → Option (D → Except Err D)
  /-- a field, and not `tableRel` of the other three, so that `graph` and `ts` below unfold to the model's `graphOf`
  and to `pandasTS` / `numpyTS` by `rfl` (the two agree only after a `match` on a variable is unfolded, which `rfl`
  does not do: each back end proves `rel_eq` by cases) -/
  rel : Edge T → Rel T D Unit
  rel_eq : ∀ e, rel e = tableRel contains guard xform e

namespace Backend

variable (B : Backend T D)

theorem rel_id {e : Edge T} (he : e.inferential = false) :
    B.rel e = { src := e.src, dst := e.dst, inferential := false,
                guard := fun c s => .ok (B.contains e.dst c, s), xform := fun c s => .ok (c, s) } := by
  rw [B.rel_eq, tableRel, he]; rfl

theorem rel_inf {e : Edge T} (he : e.inferential = true) :
    B.rel e = { src := e.src, dst := e.dst, inferential := true,
                guard := fun c s => match B.guard e.src e.dst with
                  | some g => (g c).map (fun v => (v, s))
                  | none => .error .notImplemented,
                xform := fun c s => match B.xform e.src e.dst with
                  | some t => (t c).map (fun v => (v, s))
                  | none => .ok (c, s) } := by
  rw [B.rel_eq, tableRel, he]; rfl

theorem rel_dst (e : Edge T) : (B.rel e).dst = e.dst := by
  cases he : e.inferential <;> simp only [B.rel_id, B.rel_inf, he]

theorem rel_inferential (e : Edge T) : (B.rel e).inferential = e.inferential := by
  cases he : e.inferential <;> simp only [B.rel_id, B.rel_inf, he]

def ofContains (contains : T → D → Bool) : Backend T D :=
  ⟨contains, fun _ _ => none, fun _ _ => none, _, fun _ => rfl⟩

theorem pure_dst (e : Edge T) : (purifyRel (B.rel e)).dst = e.dst := B.rel_dst e
theorem pure_inferential (e : Edge T) : (purifyRel (B.rel e)).inferential = e.inferential := B.rel_inferential e

theorem pure_id {e : Edge T} (he : e.inferential = false) :
    (∀ x, (purifyRel (B.rel e)).guard x = B.contains e.dst x) ∧ (∀ x, (purifyRel (B.rel e)).xform x = x) := by
  rw [B.rel_id he]; exact ⟨fun _ => rfl, fun _ => rfl⟩

theorem pure_inf {e : Edge T} (he : e.inferential = true) (x : D) :
    ((purifyRel (B.rel e)).guard x = true ↔ ∃ g, B.guard e.src e.dst = some g ∧ g x = .ok true) ∧
    (purifyRel (B.rel e)).xform x = (match B.xform e.src e.dst with
      | some t => (match t x with | .ok d => d | .error _ => x)
      | none => x) := by
  rw [B.rel_inf he]
  constructor
  · simp only [purifyRel]
    cases B.guard e.src e.dst with
    | none => simp
    | some g => cases hgx : g x with
      | error err => simp [Except.map, hgx]
      | ok v => cases v <;> simp [Except.map, hgx]
  · simp only [purifyRel]
    cases B.xform e.src e.dst with
    | none => rfl
    | some t => cases htx : t x <;> simp only [Except.map, htx]

def Accepts (e : Edge T) (x : D) : Prop := (purifyRel (B.rel e)).guard x = true

variable {B} in
theorem Accepts.id {e : Edge T} {x : D} (a : B.Accepts e x) (he : e.inferential = false) : B.contains e.dst x = true :=
  (B.pure_id he).1 x ▸ a

variable {B} in
theorem Accepts.inf {e : Edge T} {x : D} (a : B.Accepts e x) (he : e.inferential = true) :
    ∃ g, B.guard e.src e.dst = some g ∧ g x = .ok true :=
  (B.pure_inf he x).1.mp a

variable [DecidableEq T] (h : T → Nat)

def graph (B : Backend T D) (b : Built T) : Graph T D Unit :=
  { succ := fun n => (b.edges.filter (fun e => e.src == n)).map B.rel }

def ts (B : Backend T D) (h : T → Nat) (b : Built T) : TS T D :=
  { succ := purify (B.graph b), contains := B.contains, h := h }

theorem mem_graph_succ {b : Built T} {n : T} {r : Rel T D Unit} :
    r ∈ (B.graph b).succ n ↔ ∃ e ∈ b.edges, e.src = n ∧ B.rel e = r := by
  simp only [graph, List.mem_map, List.mem_filter, beq_iff_eq, and_assoc]

theorem mem_ts_succ {b : Built T} {n : T} {r : PRel T D} :
    r ∈ (B.ts h b).succ n ↔ ∃ e ∈ b.edges, e.src = n ∧ purifyRel (B.rel e) = r := by
  simp only [ts, purify, List.mem_map, mem_graph_succ]
  constructor
  · rintro ⟨_, ⟨e, he, hs, rfl⟩, rfl⟩; exact ⟨e, he, hs, rfl⟩
  · rintro ⟨e, he, hs, rfl⟩; exact ⟨_, ⟨e, he, hs, rfl⟩, rfl⟩

theorem base_succ (b : Built T) (n : T) :
    (B.graph b).base.succ n = (b.baseEdges.filter (fun e => e.src == n)).map B.rel := by
  simp only [Graph.base, graph, Built.baseEdges, List.filter_map, List.filter_filter]
  congr 2
  funext e
  simp only [Function.comp, rel_inferential, Bool.and_comm]

theorem idSucc_purify (b : Built T) (n : T) : (B.ts h b).idSucc n = ((B.graph b).base.succ n).map purifyRel := by
  simp only [TS.idSucc, ts, pbase, purify, Graph.base, List.filter_map]; rfl

theorem inferential_of_mem_base {b : Built T} {n : T} {e : Edge T}
    (he : e ∈ b.baseEdges.filter (fun e => e.src == n)) : e.inferential = false := by
  simpa using (List.mem_filter.mp (List.mem_filter.mp he).1).2

/-- the form in which detection-only models define their graph -/
theorem idSucc_eq (b : Built T) (n : T) :
    (B.ts h b).idSucc n = (b.baseEdges.filter (fun e => e.src == n)).map
      (fun e => { src := e.src, dst := e.dst, inferential := false, guard := fun x => B.contains e.dst x, xform := id }) := by
  rw [idSucc_purify, base_succ, List.map_map]
  refine List.map_congr_left fun e he => ?_
  simp only [Function.comp, B.rel_id (inferential_of_mem_base he)]; rfl

theorem base_eq (b : Built T) : (B.graph b).base = liftSucc (B.ts h b).idSucc := by
  unfold Graph.base liftSucc
  congr 1
  funext n
  show (B.graph b).base.succ n = ((B.ts h b).idSucc n).map PRel.toRel
  rw [idSucc_purify, base_succ, List.map_map, List.map_map]
  refine List.map_congr_left fun e he => ?_
  simp only [Function.comp, B.rel_id (inferential_of_mem_base he)]; rfl

theorem rel_cases {b : Built T} {n : T} {r : PRel T D} (hr : r ∈ (B.ts h b).succ n) :
    ((∀ x, r.guard x = B.contains r.dst x) ∧ ∀ x, r.xform x = x) ∨
    ((∀ x, r.guard x = true ↔ ∃ g, B.guard n r.dst = some g ∧ g x = .ok true) ∧
      ∀ x, r.xform x = (match B.xform n r.dst with
        | some t => (match t x with | .ok d => d | .error _ => x)
        | none => x)) := by
  obtain ⟨e, _, rfl, rfl⟩ := (B.mem_ts_succ h).mp hr
  rw [pure_dst]
  cases he : e.inferential with
  | false => exact .inl (B.pure_id he)
  | true => exact .inr ⟨fun x => (B.pure_inf he x).1, fun x => (B.pure_inf he x).2⟩

theorem ts_L0 (b : Built T) : (B.ts h b).L0 := by
  intro n r hr hi
  obtain ⟨e, _, _, rfl⟩ := (B.mem_ts_succ h).mp hr
  rw [pure_inferential] at hi
  rw [pure_dst]; exact B.pure_id hi

theorem ts_height (b : Built T) (hrank : ∀ e ∈ b.edges, h e.dst < h e.src) :
    ∀ n r, r ∈ (B.ts h b).succ n → (B.ts h b).h r.dst < (B.ts h b).h n := by
  intro n r hr
  obtain ⟨e, he, rfl, rfl⟩ := (B.mem_ts_succ h).mp hr
  rw [pure_dst]; exact hrank e he

theorem graph_height (b : Built T) (hrank : ∀ e ∈ b.edges, h e.dst < h e.src) :
    ∀ n r, r ∈ (B.graph b).succ n → h r.dst < h n := by
  intro n r hr
  obtain ⟨e, he, rfl, rfl⟩ := B.mem_graph_succ.mp hr
  rw [rel_dst]; exact hrank e he

theorem detect_ok (b : Built T) (hrank : ∀ e ∈ b.edges, h e.dst < h e.src) (f : Nat) (n : T) (x : D) (hf : h n < f) :
    traverse (B.graph b).base f n x () [] =
      .ok ((ptraverse (B.ts h b).idSucc f n x).1, (ptraverse (B.ts h b).idSucc f n x).2, ()) := by
  rw [B.base_eq h]
  exact traverse_pure _ h (fun n r hr => B.ts_height h b hrank n r (mem_idSucc.mp hr).1) f n x () [] hf

/-- The local obligations, edge by edge in the table's terms, make the purified relation graph a well-formed type system;
`hmutex` asks for equal targets only, the targets out of one node being distinct (`hnd`). -/
theorem wf (b : Built T) (I : D → Prop) (hrank : ∀ e ∈ b.edges, h e.dst < h e.src)
    (hnd : ∀ n, ((b.edges.filter (fun e => e.src == n)).map (·.dst)).Nodup)
    (hnest : ∀ e ∈ b.edges, e.inferential = false → ∀ x, I x → B.contains e.dst x = true → B.contains e.src x = true)
    (hmutex : ∀ n x, I x → B.contains n x = true → ∀ e₁ ∈ b.edges, ∀ e₂ ∈ b.edges, e₁.src = n → e₂.src = n →
      B.Accepts e₁ x → B.Accepts e₂ x → e₁.dst = e₂.dst)
    (hlands : ∀ e ∈ b.edges, e.inferential = true → ∀ g, B.guard e.src e.dst = some g → ∀ x, I x →
      B.contains e.src x = true → g x = .ok true →
      ∃ u x', B.xform e.src e.dst = some u ∧ u x = .ok x' ∧ B.contains e.dst x' = true ∧ I x') :
    (B.ts h b).WF I := by
  have step : ∀ n r x, r ∈ (B.ts h b).succ n → I x → B.contains n x = true → r.guard x = true →
      B.contains r.dst (r.xform x) = true ∧ I (r.xform x) := by
    intro n r x hr hI hc hg
    obtain ⟨e, he, rfl, rfl⟩ := (B.mem_ts_succ h).mp hr
    rw [pure_dst]
    cases hi : e.inferential with
    | false => rw [(B.pure_id hi).2]; exact ⟨Accepts.id hg hi, hI⟩
    | true =>
      obtain ⟨g, hgd, hgx⟩ := Accepts.inf hg hi
      obtain ⟨u, x', hu, hux, hc', hI'⟩ := hlands e he hi g hgd x hI hc hgx
      rw [(B.pure_inf hi x).2, hu]; simp only [hux]; exact ⟨hc', hI'⟩
  exact {
    height := B.ts_height h b hrank
    idGuard := B.ts_L0 h b
    nested := by
      intro n r hr hi x hI hc
      obtain ⟨e, he, rfl, rfl⟩ := (B.mem_ts_succ h).mp hr
      rw [pure_inferential] at hi; rw [pure_dst] at hc
      exact hnest e he hi x hI hc
    mutex := by
      intro n x hI hc
      have e : ((fun r : PRel T D => r.dst) ∘ purifyRel ∘ B.rel) = (fun e : Edge T => e.dst) := funext B.pure_dst
      refine filter_le_one_of_nodup_key _ _ (·.dst) (by simp only [ts, purify, graph, List.map_map, e]; exact hnd n) ?_
      intro r₁ h₁ r₂ h₂ g₁ g₂
      obtain ⟨e₁, he₁, hs₁, rfl⟩ := (B.mem_ts_succ h).mp h₁
      obtain ⟨e₂, he₂, hs₂, rfl⟩ := (B.mem_ts_succ h).mp h₂
      simp only [pure_dst]
      exact hmutex n x hI hc e₁ he₁ e₂ he₂ hs₁ hs₂ g₁ g₂
    lands := fun n r x hr hI hc hg => (step n r x hr hI hc hg).1
    closed := fun n r x hr hI hc hg => (step n r x hr hI hc hg).2 }

theorem infer_eq (b : Built T) (f : Nat) (n : T) (c d : D) (p : List T)
    (hv : traverse (B.graph b) f n c () [] = .ok (d, p, ())) : ptraverse (B.ts h b).succ f n c = (d, p) := by
  obtain ⟨q, rfl, hpt⟩ := traverse_ok_pure (B.graph b) f n c [] d p hv
  exact hpt

theorem detect_eq (b : Built T) (f : Nat) (n : T) (c d : D) (p : List T)
    (hv : traverse (B.graph b).base f n c () [] = .ok (d, p, ())) : ptraverse (B.ts h b).idSucc f n c = (d, p) := by
  obtain ⟨q, rfl, hpt⟩ := traverse_ok_pure (B.graph b).base f n c [] d p hv
  rwa [show (B.ts h b).idSucc = purify (B.graph b).base from funext (B.idSucc_purify h b)]

theorem succ_perm {b b' : Built T} (hp : b.edges.Perm b'.edges) (n : T) :
    ((B.ts h b).succ n).Perm ((B.ts h b').succ n) :=
  ((hp.filter _).map _).map _

theorem idReach_idPath {b : Built T} {a t : T} (hr : IdReach b.edges a t) : IdPath (B.ts h b) a t := by
  induction hr with
  | refl => exact IdPath.refl _
  | step e _ he hi ih =>
    refine idpath_snoc _ ih (purifyRel (B.rel e)) (mem_idSucc.mpr ⟨?_, ?_⟩) (B.pure_dst e)
    · exact (B.mem_ts_succ h).mpr ⟨e, he, rfl, rfl⟩
    · rw [pure_inferential]; exact hi

variable {declared : T → List (RelDecl T)} {generic : T} {rank : T → Nat}

theorem nodes (wf : TableWF declared generic rank) {S : List T} (hg : generic ∈ S) (pc : ParentClosedL declared S)
    {b : Built T} (he : b.edges = presentEdges declared S) : Nodes (B.ts h b) (· ∈ S) generic where
  rootIn := hg
  step := by
    intro n r _ hr
    obtain ⟨e, hm, _, rfl⟩ := (B.mem_ts_succ h).mp hr
    rw [pure_dst]; rw [he] at hm; exact (mem_presentEdges.mp hm).1
  idpath := fun t ht => B.idReach_idPath h (he ▸ idReach_of_closed wf pc t ht)

theorem parentClosed {A : List T} (pcA : ParentClosedL declared A) {b : Built T}
    (hd : ∀ e ∈ b.edges, (⟨e.src, e.inferential⟩ : RelDecl T) ∈ declared e.dst) :
    ParentClosed (B.ts h b) (fun t => decide (t ∈ A)) := by
  intro n r hr hA
  obtain ⟨e, he, rfl, rfl⟩ := (B.mem_ts_succ h).mp (mem_idSucc.mp hr).1
  have hi := (mem_idSucc.mp hr).2
  rw [pure_inferential] at hi
  rw [pure_dst, decide_eq_true_eq] at hA
  exact decide_eq_true (pcA e.dst hA _ (hd e he) hi)

theorem restrict_perm (hsrc : ∀ t, ((declared t).map (·.src)).Nodup) {A S : List T} (hAS : ∀ t ∈ A, t ∈ S)
    (ndA : A.Nodup) (ndS : S.Nodup) {bA bS : Built T} (eA : bA.edges = presentEdges declared A)
    (eS : bS.edges = presentEdges declared S) {n : T} (hn : n ∈ A) :
    (((B.ts h bS).restrict (fun t => decide (t ∈ A))).succ n).Perm ((B.ts h bA).succ n) := by
  have hfun : ((fun r : PRel T D => decide (r.dst ∈ A)) ∘ (purifyRel ∘ B.rel)) = (fun e : Edge T => decide (e.dst ∈ A)) := by
    funext e; simp only [Function.comp, pure_dst]
  simp only [TS.restrict, ts, purify, graph, List.map_map, List.filter_map, hfun, eA, eS]
  exact (presentEdges_restrict_perm hsrc hAS ndA ndS hn).map _

/-- `hx`: a transformer raises on both of two related data or on neither (the purified relation leaves the data where
it raises). -/
theorem ptraverse_rel (b : Built T) (R : D → D → Prop)
    (hc : ∀ t x y, R x y → B.contains t x = B.contains t y)
    (hg : ∀ s t g, B.guard s t = some g → ∀ x y, R x y → (g x = .ok true ↔ g y = .ok true))
    (hx : ∀ s t u, B.xform s t = some u → ∀ x y, R x y →
      (∀ d, u x = .ok d → ∃ d', u y = .ok d' ∧ R d d') ∧ (∀ d', u y = .ok d' → ∃ d, u x = .ok d)) :
    ∀ f n x y, R x y →
      (ptraverse (B.ts h b).succ f n x).2 = (ptraverse (B.ts h b).succ f n y).2 ∧
      R (ptraverse (B.ts h b).succ f n x).1 (ptraverse (B.ts h b).succ f n y).1 := by
  refine ptraverse_sim _ R ?_ ?_ <;> intro n r hr x y hxy
  · rcases B.rel_cases h hr with ⟨hid, _⟩ | ⟨hgi, _⟩
    · rw [hid, hid]; exact hc _ _ _ hxy
    · rw [Bool.eq_iff_iff, hgi, hgi]
      exact exists_congr fun g => and_congr_right fun hgd => hg _ _ g hgd x y hxy
  · intro _
    rcases B.rel_cases h hr with ⟨_, hid⟩ | ⟨_, hxf⟩
    · rw [hid, hid]; exact hxy
    rw [hxf, hxf]
    cases hu : B.xform n r.dst with
    | none => exact hxy
    | some u =>
      have ⟨fwd, bwd⟩ := hx _ _ u hu x y hxy
      dsimp only
      cases hux : u x with
      | ok d => obtain ⟨d', hd', hr'⟩ := fwd d hux; rw [hd']; exact hr'
      | error _ =>
        cases huy : u y with
        | error _ => exact hxy
        | ok d' => obtain ⟨d, hd⟩ := bwd d' huy; rw [hux] at hd; cases hd

/-- Both traversals return, along the same path: the one on `x` by `hdef`, `hg`, `hx` (no test raises on a member of its
source type; an accepting relation's transformer returns, inside its target type, and keeps `Inv`); the one on `y` follows
it by `hc`, `hgr`, `hxr`. -/
theorem traverse_rel (b : Built T) (hrank : ∀ e ∈ b.edges, h e.dst < h e.src) (Inv : D → Prop) (R : D → D → Prop)
    (hdef : ∀ e ∈ b.edges, e.inferential = true →
      ∃ g u, B.guard e.src e.dst = some g ∧ B.xform e.src e.dst = some u)
    (hg : ∀ s t g, B.guard s t = some g → ∀ x, Inv x → B.contains s x = true → ∃ v, g x = .ok v)
    (hx : ∀ s t g u, B.guard s t = some g → B.xform s t = some u → ∀ x, Inv x → B.contains s x = true →
      g x = .ok true → ∃ x', u x = .ok x' ∧ Inv x' ∧ B.contains t x' = true)
    (hc : ∀ t x y, R x y → B.contains t x = B.contains t y)
    (hgr : ∀ s t g, B.guard s t = some g → ∀ x y, R x y → Inv x → B.contains s x = true → g x = g y)
    (hxr : ∀ s t u, B.xform s t = some u → ∀ x y x', R x y → u x = .ok x' → ∃ y', u y = .ok y' ∧ R x' y') :
    ∀ f n x y, h n < f → Inv x → R x y → B.contains n x = true →
      ∃ d d' p m, traverse (B.graph b) f n x () [] = .ok (d, p, ()) ∧
        traverse (B.graph b) f n y () [] = .ok (d', p, ()) ∧ p.getLast? = some m ∧
        R d d' ∧ Inv d ∧ B.contains m d = true := by
  intro f n x y hf hi hxy hcn
  have ⟨d, d', p, _, m, hr⟩ := traverse_sim (B.graph b) h (fun n x y => R x y ∧ Inv x ∧ B.contains n x = true)
    (B.graph_height h b hrank) (hg := ?guards) (hx := ?xforms) f n x y () [] hf ⟨hxy, hi, hcn⟩
  case guards =>
    intro n x y ⟨hxy, hi, hcn⟩ r hr _
    obtain ⟨e, hm, rfl, rfl⟩ := B.mem_graph_succ.mp hr
    cases he : e.inferential with
    | false => exact ⟨B.contains e.dst x, (), by rw [B.rel_id he], by rw [B.rel_id he, hc _ _ _ hxy]⟩
    | true =>
      obtain ⟨g, _, hgd, _⟩ := hdef e hm he
      obtain ⟨v, hv⟩ := hg _ _ g hgd x hi hcn
      have hv' := hgr _ _ g hgd x y hxy hi hcn ▸ hv
      exact ⟨v, (), by simp only [B.rel_inf he, hgd, hv, Except.map], by simp only [B.rel_inf he, hgd, hv', Except.map]⟩
  case xforms =>
    intro n x y ⟨hxy, hi, hcn⟩ r hr _ _ ha
    obtain ⟨e, hm, rfl, rfl⟩ := B.mem_graph_succ.mp hr
    have a : B.Accepts e x := purifyRel_guard ha
    cases he : e.inferential with
    | false =>
      exact ⟨x, y, (), by rw [B.rel_id he], by rw [B.rel_id he], hxy, hi, B.rel_dst e ▸ a.id he⟩
    | true =>
      obtain ⟨g, hgd, hgx⟩ := a.inf he
      obtain ⟨_, u, _, hud⟩ := hdef e hm he
      obtain ⟨x', hx', hi', hc'⟩ := hx _ _ g u hgd hud x hi hcn hgx
      obtain ⟨y', hy', hr'⟩ := hxr _ _ u hud x y x' hxy hx'
      exact ⟨x', y', (), by simp only [B.rel_inf he, hud, hx', Except.map],
        by simp only [B.rel_inf he, hud, hy', Except.map], hr', hi', B.rel_dst e ▸ hc'⟩
  exact ⟨d, d', p, m, hr⟩

/-- C09: the diagonal of `traverse_rel` -/
theorem total (b : Built T) (hrank : ∀ e ∈ b.edges, h e.dst < h e.src) (Inv : D → Prop)
    (hdef : ∀ e ∈ b.edges, e.inferential = true →
      ∃ g u, B.guard e.src e.dst = some g ∧ B.xform e.src e.dst = some u)
    (hg : ∀ s t g, B.guard s t = some g → ∀ x, Inv x → B.contains s x = true → ∃ v, g x = .ok v)
    (hx : ∀ s t g u, B.guard s t = some g → B.xform s t = some u → ∀ x, Inv x → B.contains s x = true →
      g x = .ok true → ∃ x', u x = .ok x' ∧ Inv x' ∧ B.contains t x' = true) :
    ∀ f n x, h n < f → Inv x → B.contains n x = true →
      ∃ d p m, traverse (B.graph b) f n x () [] = .ok (d, p, ()) ∧ p.getLast? = some m ∧ Inv d ∧
        B.contains m d = true := by
  intro f n x hf hi hcn
  obtain ⟨d, -, p, m, hrun, -, hlast, -, hinv, hmem⟩ := B.traverse_rel h b hrank Inv Eq hdef hg hx
    (hc := fun _ _ _ e => e ▸ rfl) (hgr := fun _ _ _ _ _ _ e _ _ => e ▸ rfl)
    (hxr := fun _ _ _ _ _ _ x' e hx' => ⟨x', e ▸ hx', rfl⟩) f n x x hf hi rfl hcn
  exact ⟨d, p, m, hrun, hlast, hinv, hmem⟩

end Backend

end V
