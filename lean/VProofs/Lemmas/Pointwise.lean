/-
  One notion under two names, both fixed by the statements that use them: `C06.Pointwise` (element-wise decoding, C06) and
  `V.Forall2` (a frame and its per-column results, C12).  The lemmas are stated for the first; `Forall2.of_pointwise`
  carries a result over to the second.
-/
namespace V.C06

inductive Pointwise {α β : Type} (R : α → β → Prop) : List α → List β → Prop where
  | nil : Pointwise R [] []
  | cons {a : α} {b : β} {as : List α} {bs : List β} : R a b → Pointwise R as bs → Pointwise R (a :: as) (b :: bs)

theorem Pointwise.length_eq {α β : Type} {R : α → β → Prop} {l : List α} {l' : List β} (h : Pointwise R l l') :
    l.length = l'.length := by
  induction h with
  | nil => rfl
  | cons _ _ ih => simp [ih]

theorem Pointwise.map {α β : Type} {R : α → β → Prop} (f : α → β) {l : List α} (h : ∀ a ∈ l, R a (f a)) :
    Pointwise R l (l.map f) := by
  induction l with
  | nil => exact Pointwise.nil
  | cons a as ih => exact Pointwise.cons (h a List.mem_cons_self) (ih fun b hb => h b (List.mem_cons_of_mem _ hb))

theorem Pointwise.imp_mem {α β : Type} {R S : α → β → Prop} {l : List α} {l' : List β} (h : Pointwise R l l')
    (hi : ∀ a ∈ l, ∀ b, R a b → S a b) : Pointwise S l l' := by
  induction h with
  | nil => exact Pointwise.nil
  | cons h1 _ ih =>
    exact Pointwise.cons (hi _ List.mem_cons_self _ h1) (ih fun a ha => hi a (List.mem_cons_of_mem _ ha))

theorem Pointwise.imp {α β : Type} {R S : α → β → Prop} {l : List α} {l' : List β} (h : Pointwise R l l')
    (hi : ∀ a b, R a b → S a b) : Pointwise S l l' := h.imp_mem fun a _ => hi a

theorem Pointwise.map_eq {α β γ : Type} {f : α → γ} {g : β → γ} {l : List α} {l' : List β}
    (h : Pointwise (fun a b => g b = f a) l l') : l'.map g = l.map f := by
  induction h with
  | nil => rfl
  | cons h1 _ ih => simp only [List.map_cons, h1, ih]

theorem Pointwise.exists_of_mem_left {α β : Type} {R : α → β → Prop} {l : List α} {l' : List β} (h : Pointwise R l l')
    {a : α} (ha : a ∈ l) : ∃ b ∈ l', R a b := by
  induction h with
  | nil => cases ha
  | cons h1 _ ih =>
    rcases List.mem_cons.mp ha with rfl | ha
    · exact ⟨_, List.mem_cons_self, h1⟩
    · obtain ⟨b, hb, hr⟩ := ih ha; exact ⟨b, List.mem_cons_of_mem _ hb, hr⟩

theorem Pointwise.flip {α β : Type} {R : α → β → Prop} {l : List α} {l' : List β} (h : Pointwise R l l') :
    Pointwise (fun b a => R a b) l' l := by
  induction h with
  | nil => exact Pointwise.nil
  | cons h1 _ ih => exact Pointwise.cons h1 ih

theorem Pointwise.exists_of_mem_right {α β : Type} {R : α → β → Prop} {l : List α} {l' : List β} (h : Pointwise R l l')
    {b : β} (hb : b ∈ l') : ∃ a ∈ l, R a b := h.flip.exists_of_mem_left hb

end V.C06

namespace V
open V.C06

inductive Forall2 {α β : Type} (R : α → β → Prop) : List α → List β → Prop where
  | nil : Forall2 R [] []
  | cons {a b as bs} : R a b → Forall2 R as bs → Forall2 R (a :: as) (b :: bs)

theorem Forall2.of_pointwise {α β : Type} {R R' : α → β → Prop} {as : List α} {bs : List β}
    (h : Pointwise R as bs) (hR : ∀ a b, R a b → R' a b) : Forall2 R' as bs := by
  induction h with
  | nil => exact .nil
  | cons h1 _ ih => exact .cons (hR _ _ h1) ih

end V
