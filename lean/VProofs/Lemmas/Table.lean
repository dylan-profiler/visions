/-
  The generated relation table (`declared`, `rank`, `isGeneric`, CompleteSet), independently of any back end: the
  namespace is `V.Pd`, but the pandas, numpy, list and Spark proofs all use these helpers.  `outOf_object` and
  `outOf_string` name the lists `objChildren` and `strParsers` of `VModel/PandasGood`, hence that import.
-/
import VProofs.Lemmas.Backend
import VProofs.Lemmas.FiniteL
import VModel.Generated.Typesets
import VModel.PandasGood
namespace V.C14
open V V.Gen

/-- `rank` is computed by the translator and checked here -/
theorem tableWF : TableWF declared Ty.Generic rank where
  genericNone := rfl
  oneIdentity := by decide
  srcNodup := by decide
  rankInc := by decide

theorem isGeneric_iff (t : Ty) : isGeneric t = true ↔ t = Ty.Generic := by revert t; decide

theorem mkTypeset_closed {S : List Ty} (nd : S.Nodup) (hg : Ty.Generic ∈ S) (pc : ParentClosedL declared S) :
    mkTypeset declared isGeneric S = .ok (closedBuilt declared Ty.Generic S) :=
  V.mkTypeset_closed tableWF rfl nd hg pc

theorem mkTypeset_closed_perm {S S' : List Ty} (hp : S.Perm S') (nd : S.Nodup) (hg : Ty.Generic ∈ S)
    (pc : ParentClosedL declared S) : mkTypeset declared isGeneric S' = .ok (closedBuilt declared Ty.Generic S') :=
  mkTypeset_closed (hp.nodup_iff.mp nd) (hp.mem_iff.mp hg) (pc.of_mem_iff fun _ => hp.mem_iff)

end V.C14

namespace V.Pd
open V V.Gen

def genericChildren : List Ty := [.Boolean, .Categorical, .Complex, .DateTime, .Float, .Integer, .TimeDelta, .Object]

def parentOf (t : Ty) : Option Ty := ((declared t).find? (fun r => !r.inferential)).map (·.src)

theorem rank_le (t : Ty) : rank t ≤ 8 := by revert t; decide

/-- The height of a type is `32 - rank t`: with `rank ≤ 8` any bound from 8 up would do, it only has to make the
height fall along every edge and stay below the fuel (`fuel_ok`). -/
theorem height_of_rank {b : Built Ty} (hrank : ∀ e ∈ b.edges, rank e.src < rank e.dst) :
    ∀ e ∈ b.edges, 32 - rank e.dst < 32 - rank e.src := by
  intro e he; have := hrank e he; have := rank_le e.dst; omega

theorem parentOf_decl {c t : Ty} (h : parentOf c = some t) : (⟨t, false⟩ : RelDecl Ty) ∈ declared c := by
  simp only [parentOf, Option.map_eq_some_iff] at h
  obtain ⟨⟨s, i⟩, hr, rfl⟩ := h
  have hi : i = false := by simpa using List.find?_some hr
  exact hi ▸ List.mem_of_find?_eq_some hr

theorem table_identity_parent (dst : Ty) (r : RelDecl Ty) (hr : r ∈ declared dst) (hi : r.inferential = false) :
    parentOf dst = some r.src := by
  revert dst r; decide

def outOf (n : Ty) : List (Ty × Bool) :=
  completeSet.flatMap fun dst => ((declared dst).filter (·.src == n)).map fun r => (dst, r.inferential)

theorem outOf_generic : ∀ p ∈ outOf .Generic, p.2 = false ∧ p.1 ∈ genericChildren := by decide
theorem outOf_object : ∀ p ∈ outOf .Object, p.1 ∈ objChildren ∧ (p.2 = true ↔ p.1 = .Boolean) := by decide
theorem outOf_string : ∀ p ∈ outOf .String, p.2 = true ∧ p.1 ∈ Ty.DateTime :: strParsers := by decide
theorem outOf_other_subsingleton (n : Ty) (hn : n ≠ .Generic ∧ n ≠ .Object ∧ n ≠ .String) :
    ∀ p ∈ outOf n, ∀ q ∈ outOf n, p.1 = q.1 := by
  revert n; decide

/-- What the back-end proofs ask of a built typeset: its edges are relations of the generated table between types of
CompleteSet, no two from the same source to the same target.  Every typeset `build_graph` makes of a parent-closed list
of those types is one (`closed_fromTable`). -/
structure FromTable (b : Built Ty) : Prop where
  decl : ∀ e ∈ b.edges, (⟨e.src, e.inferential⟩ : RelDecl Ty) ∈ declared e.dst
  /-- both ends are among the 22 types of CompleteSet -/
  in22 : ∀ e ∈ b.edges, e.src ∈ completeSet ∧ e.dst ∈ completeSet
  nodupDst : ∀ n, ((b.edges.filter (fun e => e.src == n)).map (·.dst)).Nodup
  rank : ∀ e ∈ b.edges, rank e.src < rank e.dst

theorem FromTable.outOf {b : Built Ty} (ft : FromTable b) {e : Edge Ty} (he : e ∈ b.edges) :
    (e.dst, e.inferential) ∈ outOf e.src := by
  simp only [Pd.outOf, List.mem_flatMap, List.mem_map, List.mem_filter]
  exact ⟨e.dst, (ft.in22 e he).2, ⟨e.src, e.inferential⟩, ⟨ft.decl e he, by simp⟩, rfl⟩

theorem closed_fromTable {S : List Ty} (nd : S.Nodup) (hsub : ∀ t ∈ S, t ∈ completeSet) :
    FromTable (closedBuilt declared Ty.Generic S) where
  decl := fun _ hm => (mem_presentEdges.mp hm).2.2
  in22 := fun _ hm => ⟨hsub _ (mem_presentEdges.mp hm).2.1, hsub _ (mem_presentEdges.mp hm).1⟩
  nodupDst := presentEdges_nodup_dst C14.tableWF.srcNodup S nd
  rank := fun e hm => C14.tableWF.rankInc e.dst ⟨e.src, e.inferential⟩ (mem_presentEdges.mp hm).2.2

theorem built_fromTable (S : List Ty) (nd : S.Nodup) (hg : Ty.Generic ∈ S) (pc : ParentClosedL declared S)
    (hsub : ∀ t ∈ S, t ∈ completeSet) :
    ∃ b, mkTypeset declared isGeneric S = .ok b ∧ b.root = Ty.Generic ∧ b.nodes = S ∧ FromTable b ∧
      b.edges = presentEdges declared S :=
  ⟨_, C14.mkTypeset_closed nd hg pc, rfl, rfl, closed_fromTable nd hsub, rfl⟩

theorem closed_nodes {D : Type} (B : Backend Ty D) (h : Ty → Nat) {S : List Ty} (hg : Ty.Generic ∈ S)
    (pc : ParentClosedL declared S) : Nodes (B.ts h (closedBuilt declared Ty.Generic S)) (· ∈ S) Ty.Generic :=
  B.nodes h C14.tableWF hg pc rfl

/-- 64 is the fuel with which the models and the drivers run every walk (`sparkDetect`, `listDetect`, the drivers'
`traverse … 64`); it exceeds every height -/
theorem fuel_ok (t : Ty) : 32 - rank t < 64 := by omega

end V.Pd
