/-
  One equation, `LRU.get_eq`, says what a call does to a cache within its bounds, hit or miss alike.  The invariant and the
  refinement to the "distinct keys by most recent use" specification (C20) are each preserved by that step.
-/
import VModel.LRU
namespace V

variable {K V A : Type} [DecidableEq K]

omit [DecidableEq K] in
theorem LRU.not_mem_keys {c : LRU K V} {k : K} : k ∉ c.keys ↔ ∀ e ∈ c.items, e.1 ≠ k := by
  simp only [LRU.keys, List.mem_map, not_exists, not_and]

theorem LRU.lookup_eq_none {c : LRU K V} {k : K} : c.lookup k = none ↔ k ∉ c.keys := by
  simp only [LRU.lookup, Option.map_eq_none_iff, List.find?_eq_none, LRU.not_mem_keys, beq_iff_eq, ne_eq]

theorem LRU.mem_of_lookup {c : LRU K V} {k : K} {v : V} (h : c.lookup k = some v) : (k, v) ∈ c.items := by
  simp only [LRU.lookup, Option.map_eq_some_iff] at h
  obtain ⟨⟨k', v'⟩, he, rfl⟩ := h
  have hk : k' = k := by simpa using List.find?_some he
  exact hk ▸ List.mem_of_find?_eq_some he

theorem LRU.getitem_last (cap : Nat) (l : List (K × V)) (k : K) (v : V) (h : ∀ e ∈ l, e.1 ≠ k) :
    (⟨cap, l ++ [(k, v)]⟩ : LRU K V).getitem k = some (v, ⟨cap, l ++ [(k, v)]⟩) := by
  have h1 : l.find? (fun e => e.1 == k) = none := List.find?_eq_none.mpr fun e he => by simpa using h e he
  have h2 : l.filter (fun e => e.1 != k) = l := List.filter_eq_self.mpr fun e he => by simpa using h e he
  simp [LRU.getitem, LRU.lookup, h1, h2]

/-- The entries other than `k`'s that survive a call on `k`: `k`'s own entry is taken out (it goes back in at the
most-recent end); if putting it back would exceed `cap`, the oldest of the rest is dropped. -/
def LRU.kept (c : LRU K V) (k : K) : List (K × V) :=
  let l := c.items.filter (fun e => e.1 != k)
  if l.length + 1 > c.cap then l.tail else l

/-- `ev` is what is evicted: the oldest of the other entries or nothing, and something only if the cache is full once
`k` is back in -/
theorem LRU.kept_spec (c : LRU K V) (k : K) (hcap : 1 ≤ c.cap) (hlen : c.items.length ≤ c.cap) :
    ∃ ev, c.items.filter (fun e => e.1 != k) = ev ++ c.kept k ∧ (c.kept k).length + 1 ≤ c.cap ∧
      (ev ≠ [] → (c.kept k).length + 1 = c.cap) := by
  have := List.length_filter_le (fun e : K × V => e.1 != k) c.items
  simp only [LRU.kept]
  have htail := List.length_tail (l := c.items.filter (fun e => e.1 != k))
  split
  · exact ⟨_, (List.take_append_drop 1 _).symm.trans (by rw [List.drop_one]), by omega, fun _ => by omega⟩
  · exact ⟨[], rfl, by omega, fun h => absurd rfl h⟩

theorem LRU.ne_of_mem_kept {c : LRU K V} {k : K} : ∀ e ∈ c.kept k, e.1 ≠ k := by
  intro e he
  have : e ∈ c.items.filter (fun e => e.1 != k) := by
    simp only [LRU.kept] at he
    split at he
    · exact List.mem_of_mem_tail he
    · exact he
  simpa using (List.mem_filter.mp this).2

theorem LRU.setitem_absent (c : LRU K V) (k : K) (v : V) (h : ∀ e ∈ c.items, e.1 ≠ k) (hcap : 1 ≤ c.cap) :
    c.setitem k v = ⟨c.cap, c.kept k ++ [(k, v)]⟩ := by
  have hany : c.items.any (fun e => e.1 == k) = false :=
    List.any_eq_false.mpr fun e he => by simpa using h e he
  have hfil : c.items.filter (fun e => e.1 != k) = c.items :=
    List.filter_eq_self.mpr fun e he => by simpa using h e he
  simp only [LRU.setitem, LRU.kept, hany, hfil, Bool.false_eq_true, if_false, List.length_append,
    List.length_singleton]
  split
  · rename_i hov
    -- the cache is not empty, so the entry dropped from the front is not the new one
    rw [List.tail_append_of_ne_nil fun h => by rw [h, List.length_nil] at hov; omega]
  · rfl

theorem LRU.get_eq (c : LRU K V) (key : A → K) (f : A → V) (a : A) (hcap : 1 ≤ c.cap)
    (hlen : c.items.length ≤ c.cap) :
    c.get key f a =
      (some ((c.lookup (key a)).getD (f a)),
       { c with items := c.kept (key a) ++ [(key a, (c.lookup (key a)).getD (f a))] },
       !c.keys.contains (key a)) := by
  cases hl : c.lookup (key a) with
  | some v =>
    -- hit: nothing is evicted
    have hm := LRU.mem_of_lookup hl
    have hany : c.items.any (fun e => e.1 == key a) = true := List.any_eq_true.mpr ⟨_, hm, by simp⟩
    have hk : c.keys.contains (key a) = true := List.contains_iff_mem.mpr (List.mem_map_of_mem (f := (·.1)) hm)
    have hlt : (c.items.filter (fun e => e.1 != key a)).length < c.items.length :=
      List.length_filter_lt_length_iff_exists.mpr ⟨_, hm, by simp⟩
    have hkept : c.kept (key a) = c.items.filter (fun e => e.1 != key a) := by
      simp only [LRU.kept]; exact if_neg (by omega)
    simp only [LRU.get, hany, if_true, LRU.getitem, hl, hkept, Option.getD_some, hk, Bool.not_true]
  | none =>
    have hk : key a ∉ c.keys := LRU.lookup_eq_none.mp hl
    have hany : c.items.any (fun e => e.1 == key a) = false :=
      List.any_eq_false.mpr fun e he => by simpa using LRU.not_mem_keys.mp hk e he
    have hc : c.keys.contains (key a) = false := by simpa using hk
    simp only [LRU.get, hany, Bool.false_eq_true, if_false, LRU.setitem_absent c _ _ (LRU.not_mem_keys.mp hk) hcap,
      LRU.getitem_last _ _ _ _ LRU.ne_of_mem_kept, Option.getD_none, hc, Bool.not_false]

structure LRU.Inv (c : LRU K V) (key : A → K) (f : A → V) : Prop where
  nodup : c.keys.Nodup
  bounded : c.items.length ≤ c.cap
  values : ∀ e ∈ c.items, ∃ a, key a = e.1 ∧ e.2 = f a

omit [DecidableEq K] in
theorem LRU.Inv.empty (cap : Nat) (key : A → K) (f : A → V) : (LRU.empty cap).Inv key f :=
  ⟨List.nodup_nil, Nat.zero_le cap, fun _ he => nomatch he⟩

theorem LRU.keys_filter (items : List (K × V)) (k : K) :
    (items.filter (fun e => e.1 != k)).map (·.1) = (items.map (·.1)).filter (· != k) := by
  simp [List.filter_map, Function.comp_def]

/-- One use of `k` in the specification state (all keys ever used, least recently used first): `k` moves to the
most-recent end. -/
def touch (l : List K) (k : K) : List K := l.filter (· != k) ++ [k]

theorem touch_nodup (l : List K) (k : K) (h : l.Nodup) : (touch l k).Nodup := by
  refine List.nodup_append.mpr ⟨h.sublist List.filter_sublist, by simp, ?_⟩
  rintro a ha _ hb rfl
  simpa [List.mem_singleton.mp hb] using (List.mem_filter.mp ha).2

theorem LRU.inv_get (c : LRU K V) (key : A → K) (f : A → V) (a : A) (hcap : 1 ≤ c.cap)
    (inv : c.Inv key f) : (c.get key f a).2.1.Inv key f ∧ (c.get key f a).2.1.cap = c.cap := by
  rw [LRU.get_eq c key f a hcap inv.bounded]
  obtain ⟨ev, hev, hle, _⟩ := LRU.kept_spec c (key a) hcap inv.bounded
  have hsub : (c.kept (key a)).Sublist (c.items.filter (fun e => e.1 != key a)) :=
    hev ▸ List.sublist_append_right _ _
  refine ⟨⟨?_, ?_, ?_⟩, rfl⟩
  · refine (touch_nodup c.keys (key a) inv.nodup).sublist ?_
    simp only [touch, LRU.keys, List.map_append, List.map_cons, List.map_nil]
    rw [← LRU.keys_filter]
    exact (hsub.map _).append_right _
  · simpa using hle
  · intro e he
    rcases List.mem_append.mp he with he | he
    · exact inv.values e (List.mem_filter.mp (hsub.subset he)).1
    · rw [List.mem_singleton.mp he]
      cases hl : c.lookup (key a) with
      | none => exact ⟨a, rfl, rfl⟩
      | some v => exact inv.values _ (LRU.mem_of_lookup hl)

/-- the cache holds the most recently used keys; keys have been dropped (`old ≠ []`) only when it is full -/
def Refines (c : LRU K V) (spec : List K) : Prop :=
  ∃ old, spec = old ++ c.keys ∧ (old ≠ [] → c.items.length = c.cap) ∧ spec.Nodup

omit [DecidableEq K] in
theorem Refines.empty (cap : Nat) : Refines (LRU.empty cap : LRU K V) [] :=
  ⟨[], rfl, fun h => absurd rfl h, List.nodup_nil⟩

theorem LRU.refines_get (c : LRU K V) (key : A → K) (f : A → V) (a : A) (hcap : 1 ≤ c.cap)
    (hb : c.items.length ≤ c.cap) (spec : List K) (hr : Refines c spec) :
    Refines (c.get key f a).2.1 (touch spec (key a)) := by
  obtain ⟨old, rfl, hfull, hnd⟩ := hr
  rw [LRU.get_eq c key f a hcap hb]
  obtain ⟨ev, hev, hle, hevict⟩ := LRU.kept_spec c (key a) hcap hb
  have hkeys : (c.items.map (·.1)).filter (· != key a) = ev.map (·.1) ++ (c.kept (key a)).map (·.1) := by
    rw [← LRU.keys_filter, hev, List.map_append]
  refine ⟨old.filter (· != key a) ++ ev.map (·.1), ?_, fun hne => ?_, touch_nodup _ _ hnd⟩
  · simp [touch, LRU.keys, List.filter_append, hkeys]
  · show (c.kept (key a) ++ [_]).length = c.cap
    rw [List.length_append, List.length_singleton]
    by_cases hev0 : ev = []
    · -- nothing is evicted now, so something was before: the cache was full, and stays so
      have h1 := hfull fun h => hne (by simp [h, hev0])
      have h2 : c.keys.length - 1 ≤ (c.keys.filter (· != key a)).length :=
        (hnd.sublist (List.sublist_append_right _ _)).erase_eq_filter (key a) ▸ List.le_length_erase
      simp only [LRU.keys, hkeys, hev0, List.map_nil, List.nil_append, List.length_map] at h2
      omega
    · exact hevict hev0

end V
