/-
  Where the hypothesis is an equation `… = .ok _`, the induction follows the definition's own cases (`fun_induction`): a
  branch that returns an error contradicts it and is closed by `cases`.  The cases, in the order of `VModel/Engine`:
  `firstAccept`: 1 no relation left, 2 the guard raises, 3 it accepts, 4 it rejects;
  `traverse`: 1 no fuel, 2 a guard raises, 3 no relation accepts, 4 the transformer raises, 5 a hop;
  `replayPath`: 1 path done, 2 no such relation, 3 the guard raises, 4 it rejects (`break`), 5 the transformer raises,
  6 a hop;
  `traverseFrame`: 1 no column left, 2 the column's traversal raises, 3 a later one does, 4 all return.
-/
import VModel.Engine
import VProofs.Lemmas.Pure
import VProofs.Lemmas.Pointwise
namespace V

variable {T D S : Type}

/-- From the pure engine to the full one: the state is handed on untouched and nothing raises (`PRel.toRel`).
Detection runs on such a graph (`Backend.base_eq`, `Backend.detect_ok`).  `traverse_pure` is this direction,
`traverse_ok_pure` (with `purifyRel`, below) the converse. -/
def liftSucc (ps : T → List (PRel T D)) : Graph T D S := { succ := fun n => (ps n).map PRel.toRel }

theorem firstAccept_pure (prs : List (PRel T D)) (x : D) (s : S) :
    firstAccept (prs.map (PRel.toRel (S := S))) x s = .ok ((pfirst prs x).map PRel.toRel, s) := by
  induction prs with
  | nil => rfl
  | cons r rs ih =>
    simp only [List.map_cons, firstAccept, PRel.toRel, pfirst, List.find?_cons]
    cases r.guard x with
    | true => rfl
    | false => exact ih

theorem traverse_pure (ps : T → List (PRel T D)) (h : T → Nat)
    (hh : ∀ n r, r ∈ ps n → h r.dst < h n) :
    ∀ f n x (s : S) acc, h n < f →
      traverse (liftSucc ps) f n x s acc =
        .ok ((ptraverse ps f n x).1, acc ++ (ptraverse ps f n x).2, s) := by
  intro f n x s acc hf
  fun_induction ptraverse ps f n x generalizing acc with
  | case1 => exact absurd hf (Nat.not_lt_zero _)
  | case2 f n x hn => simp only [traverse, liftSucc, firstAccept_pure, hn, Option.map_none]
  | case3 f n x r hr res ih =>
    simp only [traverse, liftSucc, firstAccept_pure, hr, Option.map_some, PRel.toRel]
    exact (ih (acc ++ [n]) (lt_fuel (hh n r (pfirst_eq_some hr).1) hf)).trans
      (by simp only [res, List.append_assoc, List.singleton_append])

theorem base_liftSucc (ps : T → List (PRel T D)) :
    (liftSucc (S := S) ps).base = liftSucc (pbase ps) := by
  simp only [Graph.base, liftSucc, pbase, List.filter_map]
  congr 1

/-! The reference semantics of C12, the documented traversal: "start at the root, repeatedly follow the outgoing
  relation that accepts the current data, apply its transformer, stop when none accepts, report the visited path; the
  same state is handed to every guard and transformer in turn". -/

inductive Rejects : List (Rel T D S) → D → S → S → Prop where
  | nil {x s} : Rejects [] x s s
  | cons {r rs x s s1 s2} : r.guard x s = .ok (false, s1) → Rejects rs x s1 s2 → Rejects (r :: rs) x s s2

inductive Hop (g : Graph T D S) : T × D × S → T × D × S → Prop where
  | mk {n x s s0 s1 s2 x'} (pre post : List (Rel T D S)) (r : Rel T D S) :
      g.succ n = pre ++ r :: post → Rejects pre x s s0 →
      r.guard x s0 = .ok (true, s1) → r.xform x s1 = .ok (x', s2) →
      Hop g (n, x, s) (r.dst, x', s2)

inductive Run (g : Graph T D S) : T × D × S → List T → D × S → Prop where
  | stop {n x s s'} : Rejects (g.succ n) x s s' → Run g (n, x, s) [n] (x, s')
  | step {n x s c' p res} : Hop g (n, x, s) c' → Run g c' p res → Run g (n, x, s) (n :: p) res

theorem firstAccept_none_iff (rs : List (Rel T D S)) (x : D) (s s' : S) :
    firstAccept rs x s = .ok (none, s') ↔ Rejects rs x s s' := by
  constructor
  · intro h
    fun_induction firstAccept rs x s with
    | case1 => cases h; exact .nil
    | case2 | case3 => cases h
    | case4 r rs x s s1 hg ih => exact .cons hg (ih h)
  · intro h
    induction h with
    | nil => rfl
    | cons hg _ ih => simp only [firstAccept, hg, ih]

theorem firstAccept_some_iff (rs : List (Rel T D S)) (x : D) (s s1 : S) (r : Rel T D S) :
    firstAccept rs x s = .ok (some r, s1) ↔
      ∃ pre post s0, rs = pre ++ r :: post ∧ Rejects pre x s s0 ∧ r.guard x s0 = .ok (true, s1) := by
  constructor
  · intro h
    fun_induction firstAccept rs x s with
    | case1 | case2 => cases h
    | case3 q rs x s s' hg => cases h; exact ⟨[], rs, s, rfl, .nil, hg⟩
    | case4 q rs x s s' hg ih =>
      obtain ⟨pre, post, s0, rfl, hr, ha⟩ := ih h
      exact ⟨q :: pre, post, s0, rfl, .cons hg hr, ha⟩
  · rintro ⟨pre, post, s0, rfl, hr, ha⟩
    induction hr with
    | nil => simp only [List.nil_append, firstAccept, ha]
    | cons hg _ ih => simp only [List.cons_append, firstAccept, hg, ih ha]

theorem Run.head {g : Graph T D S} {c : T × D × S} {q : List T} {res : D × S} (h : Run g c q res) :
    ∃ q', q = c.1 :: q' := by
  cases h with
  | stop _ => exact ⟨[], rfl⟩
  | step _ _ => exact ⟨_, rfl⟩

/-- C12, soundness w.r.t. the reference semantics: whatever `traverse` returns is a maximal run of the documented
traversal, no longer than the fuel, and the accumulated path is only appended to. -/
theorem traverse_run (g : Graph T D S) :
    ∀ f n x s acc d p s', traverse g f n x s acc = .ok (d, p, s') →
      ∃ q, p = acc ++ q ∧ q.length ≤ f ∧ Run g (n, x, s) q (d, s') := by
  intro f n x s acc d p s' h
  fun_induction traverse g f n x s acc with
  | case1 | case2 | case4 => cases h
  | case3 f n x s acc s1 hfa =>
    cases h
    exact ⟨[n], rfl, Nat.succ_le_succ (Nat.zero_le _), .stop ((firstAccept_none_iff ..).mp hfa)⟩
  | case5 f n x s acc r s1 hfa x' s2 hx ih =>
    obtain ⟨q, rfl, hl, hrun⟩ := ih h
    obtain ⟨pre, post, s0, e, hr, ha⟩ := (firstAccept_some_iff ..).mp hfa
    exact ⟨n :: q, List.append_assoc .., Nat.succ_le_succ hl, .step (.mk pre post r e hr ha hx) hrun⟩

/-- C12, completeness: every maximal run of the reference semantics is what `traverse` returns, given fuel for its
length. -/
theorem run_traverse (g : Graph T D S) :
    ∀ c q res, Run g c q res → ∀ f acc, q.length ≤ f →
      traverse g f c.1 c.2.1 c.2.2 acc = .ok (res.1, acc ++ q, res.2) := by
  intro c q res hrun
  induction hrun with
  | @stop n x s s' hr =>
    intro f acc hf
    obtain ⟨f, rfl⟩ := Nat.exists_eq_add_one_of_ne_zero (Nat.ne_zero_of_lt hf)
    simp only [traverse, (firstAccept_none_iff ..).mpr hr]
  | @step n x s c' p res hop _ ih =>
    intro f acc hf
    obtain ⟨f, rfl⟩ := Nat.exists_eq_add_one_of_ne_zero (Nat.ne_zero_of_lt hf)
    cases hop with
    | @mk _ _ _ s0 s1 s2 x' pre post r e hr ha hx =>
      simp only [traverse, (firstAccept_some_iff ..).mpr ⟨pre, post, s0, e, hr, ha⟩, hx]
      exact (ih f (acc ++ [n]) (Nat.le_of_succ_le_succ hf)).trans (by rw [List.append_assoc]; rfl)

theorem rejects_det {rs : List (Rel T D S)} {x : D} {s a b : S}
    (h1 : Rejects rs x s a) (h2 : Rejects rs x s b) : a = b := by
  induction h1 with
  | nil => cases h2; rfl
  | cons hg _ ih =>
    cases h2 with
    | cons hg' hr' =>
      rw [hg] at hg'
      cases hg'
      exact ih hr'

/-- C08: a frame is traversed column by column, in column order, each from the empty path and the empty state `e` -/
theorem traverseFrame_ok {L : Type} (g : Graph T D S) (f : Nat) (root : T) (e : S)
    (cols : List (L × D)) (rs : List (L × (D × List T × S))) :
    traverseFrame g f root e cols = .ok rs ↔
      C06.Pointwise (fun c r => c.1 = r.1 ∧ traverse g f root c.2 e [] = .ok r.2) cols rs := by
  constructor
  · intro h
    fun_induction traverseFrame g f root e cols generalizing rs with
    | case1 => cases h; exact .nil
    | case2 | case3 => cases h
    | case4 l c rest r ht rs' hf ih => cases h; exact .cons ⟨rfl, ht⟩ (ih rs' hf)
  · intro h
    induction h with
    | nil => rfl
    | @cons c r _ _ h1 _ ih =>
      obtain ⟨l, c⟩ := c
      obtain ⟨l', r⟩ := r
      obtain ⟨rfl, ht⟩ := h1
      simp only [traverseFrame, ht, ih]

theorem firstAccept_sim (rs : List (Rel T D S)) (x y : D) (s : S)
    (hg : ∀ r ∈ rs, ∀ s, ∃ b s', r.guard x s = .ok (b, s') ∧ r.guard y s = .ok (b, s')) :
    ∃ v, firstAccept rs x s = .ok v ∧ firstAccept rs y s = .ok v := by
  induction rs generalizing s with
  | nil => exact ⟨_, rfl, rfl⟩
  | cons r rs ih =>
    obtain ⟨b, s1, hx, hy⟩ := hg r List.mem_cons_self s
    simp only [firstAccept, hx, hy]
    cases b with
    | true => exact ⟨_, rfl, rfl⟩
    | false => exact ih s1 fun r hr => hg r (List.mem_cons_of_mem _ hr)

/-- Two runs from the same state on data related by `R` (for `S = Unit`, `hg` and `hx` only ask that guards and accepted
transformers return on both, the guard with the same verdict).  At `x = y` this is totality, with `R` an invariant. -/
theorem traverse_sim (g : Graph T D S) (h : T → Nat) (R : T → D → D → Prop)
    (hh : ∀ n r, r ∈ g.succ n → h r.dst < h n)
    (hg : ∀ n x y, R n x y → ∀ r ∈ g.succ n, ∀ s, ∃ b s', r.guard x s = .ok (b, s') ∧ r.guard y s = .ok (b, s'))
    (hx : ∀ n x y, R n x y → ∀ r ∈ g.succ n, ∀ s s1, r.guard x s = .ok (true, s1) →
      ∃ x' y' s2, r.xform x s1 = .ok (x', s2) ∧ r.xform y s1 = .ok (y', s2) ∧ R r.dst x' y') :
    ∀ f n x y s acc, h n < f → R n x y →
      ∃ d d' p s' m, traverse g f n x s acc = .ok (d, p, s') ∧ traverse g f n y s acc = .ok (d', p, s') ∧
        p.getLast? = some m ∧ R m d d' := by
  intro f
  induction f with
  | zero => intro n x y s acc hf; exact absurd hf (Nat.not_lt_zero _)
  | succ f ih =>
    intro n x y s acc hf hi
    obtain ⟨⟨o, s1⟩, hv, hv'⟩ := firstAccept_sim (g.succ n) x y s (hg n x y hi)
    simp only [traverse, hv, hv']
    cases o with
    | none => exact ⟨x, y, acc ++ [n], s1, n, rfl, rfl, List.getLast?_concat, hi⟩
    | some r =>
      obtain ⟨pre, post, s0, e, _, hacc⟩ := (firstAccept_some_iff ..).mp hv
      have hr : r ∈ g.succ n := e ▸ List.mem_append_right _ List.mem_cons_self
      obtain ⟨x', y', s2, hxv, hyv, hi'⟩ := hx n x y hi r hr s0 s1 hacc
      simp only [hxv, hyv]
      exact ih r.dst x' y' s2 (acc ++ [n]) (lt_fuel (hh n r hr) hf) hi'

/-- C09: the diagonal of `traverse_sim` -/
theorem traverse_total_inv (g : Graph T D S) (h : T → Nat) (Inv : T → D → Prop)
    (hh : ∀ n r, r ∈ g.succ n → h r.dst < h n)
    (hg : ∀ n x, Inv n x → ∀ r ∈ g.succ n, ∀ s, ∃ v, r.guard x s = .ok v)
    (hx : ∀ n x, Inv n x → ∀ r ∈ g.succ n, ∀ s s1, r.guard x s = .ok (true, s1) →
      ∃ x' s2, r.xform x s1 = .ok (x', s2) ∧ Inv r.dst x') :
    ∀ f n x s acc, h n < f → Inv n x →
      ∃ d p s' m, traverse g f n x s acc = .ok (d, p, s') ∧ p.getLast? = some m ∧ Inv m d := by
  intro f n x s acc hf hi
  obtain ⟨d, -, p, s', m, hrun, -, hlast, -, hinv⟩ := traverse_sim g h (fun n x y => x = y ∧ Inv n x) hh
    (hg := fun n x _ ⟨e, hi⟩ r hr s => let ⟨(b, s'), hv⟩ := hg n x hi r hr s; ⟨b, s', hv, e ▸ hv⟩)
    (hx := fun n x _ ⟨e, hi⟩ r hr s s1 ha =>
      let ⟨x', s2, hv, hi'⟩ := hx n x hi r hr s s1 ha; ⟨x', x', s2, hv, e ▸ hv, rfl, hi'⟩)
    f n x x s acc hf ⟨rfl, hi⟩
  exact ⟨d, p, s', m, hrun, hlast, hinv⟩

/-- `Through rel a x s hops d s'`: from `a` in state `s`, the data `x` passes the relations `rel` gives along `hops` one
after the other, each guard accepting it as it is at that point; `d` and `s'` are what the last transformer leaves
(`replayPath` pushing the full data along the path found on the sample, C18). -/
inductive Through (rel : T → T → Option (Rel T D S)) : T → D → S → List T → D → S → Prop where
  | nil {a x s} : Through rel a x s [] x s
  | cons {a b x s s1 x' s2 rest d s'} (r : Rel T D S) :
      rel a b = some r → r.guard x s = .ok (true, s1) → r.xform x s1 = .ok (x', s2) →
      Through rel b x' s2 rest d s' → Through rel a x s (b :: rest) d s'

theorem through_snoc {rel : T → T → Option (Rel T D S)} {a : T} {x : D} {s : S} {hops : List T}
    {d : D} {s' : S} (h : Through rel a x s hops d s') {b : T} {r : Rel T D S} {s1 : S} {d' : D} {s2 : S}
    (hr : rel ((a :: hops).getLast (by simp)) b = some r)
    (hg : r.guard d s' = .ok (true, s1)) (hx : r.xform d s1 = .ok (d', s2)) :
    Through rel a x s (hops ++ [b]) d' s2 := by
  induction h with
  | nil => exact Through.cons r (by simpa using hr) hg hx Through.nil
  | @cons a b0 x s s1' x' s2' rest d s' r0 h1 h2 h3 _ ih =>
    refine Through.cons r0 h1 h2 h3 (ih ?_ hg hx)
    simpa [List.getLast_cons] using hr

/-- C18: what `replayPath` returns extends the validated path by hops that all accepted the full data; the rest is
dropped.  `sEnd` is the state after the last accepted hop; the returned `s'` can differ from it: on `break` it is the
state the rejecting guard left. -/
theorem replayPath_through (rel : T → T → Option (Rel T D S)) :
    ∀ (todo : List T) (from_ : T) (x : D) (s : S) (acc : List T) (d : D) (p : List T) (s' : S),
      replayPath rel from_ todo x s acc = .ok (d, p, s') →
      ∃ done sEnd, p = acc ++ done ∧ done <+: todo ∧ Through rel from_ x s done d sEnd := by
  intro todo from_ x s acc d p s' h
  fun_induction replayPath rel from_ todo x s acc with
  | case2 | case3 | case5 => cases h
  | case1 | case4 => cases h; exact ⟨[], _, (List.append_nil _).symm, List.nil_prefix, .nil⟩
  | case6 from_ to rest x s acc r hr s1 hg x' s2 hx ih =>
    obtain ⟨done, sEnd, rfl, hpre, hth⟩ := ih h
    exact ⟨to :: done, sEnd, List.append_assoc .., List.cons_prefix_cons.mpr ⟨rfl, hpre⟩, .cons r hr hg hx hth⟩

/-- From the full engine to the pure engine: a guard that raises counts as rejecting, a transformer that raises as
the identity.  A traversal that returned normally evaluated no such guard or transformer, so it is the pure traversal
of the purified graph (`traverse_ok_pure`). -/
def purifyRel (r : Rel T D Unit) : PRel T D :=
  { src := r.src, dst := r.dst, inferential := r.inferential,
    guard := fun x => match r.guard x () with | .ok (b, _) => b | .error _ => false,
    xform := fun x => match r.xform x () with | .ok (y, _) => y | .error _ => x }

def purify (g : Graph T D Unit) : T → List (PRel T D) := fun n => (g.succ n).map purifyRel

theorem purifyRel_guard {r : Rel T D Unit} {x : D} {b : Bool} {s s' : Unit} (h : r.guard x s = .ok (b, s')) :
    (purifyRel r).guard x = b := by
  simp only [purifyRel, show r.guard x () = _ from h]

theorem purifyRel_xform {r : Rel T D Unit} {x x' : D} {s s' : Unit} (h : r.xform x s = .ok (x', s')) :
    (purifyRel r).xform x = x' := by
  simp only [purifyRel, show r.xform x () = _ from h]

theorem firstAccept_ok_pure (rs : List (Rel T D Unit)) (x : D) (s s' : Unit) (o : Option (Rel T D Unit))
    (h : firstAccept rs x s = .ok (o, s')) : pfirst (rs.map purifyRel) x = o.map purifyRel := by
  fun_induction firstAccept rs x s with
  | case1 => cases h; rfl
  | case2 => cases h
  | case3 r rs x s s1 hg => cases h; simp [pfirst, purifyRel_guard hg]
  | case4 r rs x s s1 hg ih => rw [← ih h]; simp [pfirst, purifyRel_guard hg]

theorem traverse_ok_pure (g : Graph T D Unit) :
    ∀ f n x acc d p, traverse g f n x () acc = .ok (d, p, ()) →
      ∃ q, p = acc ++ q ∧ ptraverse (purify g) f n x = (d, q) := by
  intro f n x acc d p h
  generalize () = s at h
  fun_induction traverse g f n x s acc with
  | case1 | case2 | case4 => cases h
  | case3 f n x s acc s1 hfa =>
    cases h; exact ⟨[n], rfl, ptraverse_of_none f (firstAccept_ok_pure _ _ _ _ none hfa)⟩
  | case5 f n x s acc r s1 hfa x' s2 hx ih =>
    obtain ⟨q, rfl, hq⟩ := ih h
    refine ⟨n :: q, List.append_assoc .., ?_⟩
    rw [ptraverse_of_some f (firstAccept_ok_pure _ x s s1 (some r) hfa), purifyRel_xform hx]
    exact congrArg (fun v => (v.1, n :: v.2)) hq

end V
