/-
  Sub-typesets: a type system keeps L0–L3 when relations are taken away (`TS.WF.of_sublist`), and the walk of the larger
  one continues that of the smaller (`ptraverse_split`, C15).  Detection under L0 alone (`TS.L0`): `detect_sound`,
  `detect_sound_most_specific` (C01; `Linked` says that a path follows relations), `detect_sim`.
-/
import VProofs.Lemmas.Pure
namespace V

variable {T D : Type}

theorem TS.WF.of_sublist {ts : TS T D} {I : D → Prop} (wf : ts.WF I) (s : T → List (PRel T D))
    (hs : ∀ n, (s n).Sublist (ts.succ n)) : ({ ts with succ := s } : TS T D).WF I where
  height := fun n r hr => wf.height n r ((hs n).subset hr)
  idGuard := fun n r hr => wf.idGuard n r ((hs n).subset hr)
  nested := fun n r hr => wf.nested n r ((hs n).subset hr)
  mutex := fun n x hI hc => Nat.le_trans ((hs n).filter _).length_le (wf.mutex n x hI hc)
  lands := fun n r x hr => wf.lands n r x ((hs n).subset hr)
  closed := fun n r x hr => wf.closed n r x ((hs n).subset hr)

/-- The typeset cut out of `ts` by the set of types `S`: relations whose target is in `S`
(relations whose *source* is absent are dropped by `build_graph`; from a node in `S` the
remaining ones are exactly those with target in `S`). -/
def TS.restrict (ts : TS T D) (S : T → Bool) : TS T D :=
  { ts with succ := fun n => (ts.succ n).filter (fun r => S r.dst) }

def ParentClosed (ts : TS T D) (S : T → Bool) : Prop :=
  ∀ n r, r ∈ ts.idSucc n → S r.dst = true → S n = true

theorem mem_restrict_succ {ts : TS T D} {S : T → Bool} {n : T} {r : PRel T D} :
    r ∈ (ts.restrict S).succ n ↔ r ∈ ts.succ n ∧ S r.dst = true := by
  simp [TS.restrict, List.mem_filter]

theorem TS.WF.restrict {ts : TS T D} {I : D → Prop} (wf : ts.WF I) (S : T → Bool) : (ts.restrict S).WF I :=
  wf.of_sublist _ fun _ => List.filter_sublist

def TS.idOnly (ts : TS T D) : TS T D := { ts with succ := ts.idSucc }

theorem TS.WF.idOnly {ts : TS T D} {I : D → Prop} (wf : ts.WF I) : ts.idOnly.WF I :=
  wf.of_sublist _ (idSucc_sublist ts)

theorem restrict_idSucc (ts : TS T D) (A : T → Bool) : (ts.restrict A).idSucc = (ts.idOnly.restrict A).succ := by
  funext n
  simp only [TS.idSucc, pbase, TS.restrict, TS.idOnly, List.filter_filter]
  congr 1; funext r; exact Bool.and_comm _ _

theorem idpath_closed {ts : TS T D} {S : T → Bool} (pc : ParentClosed ts S) {a b : T}
    (hp : IdPath ts a b) (hb : S b = true) : S a = true := by
  induction hp with
  | refl => exact hb
  | step r hr _ ih => exact pc _ r hr (ih hb)

theorem idpath_restrict {ts : TS T D} {S : T → Bool} (pc : ParentClosed ts S) {a b : T}
    (hp : IdPath ts a b) (hb : S b = true) : IdPath (ts.restrict S) a b := by
  induction hp with
  | refl => exact IdPath.refl _
  | step r hr hrest ih =>
    have ⟨hm, hi⟩ := mem_idSucc.mp hr
    exact IdPath.step r (mem_idSucc.mpr ⟨mem_restrict_succ.mpr ⟨hm, idpath_closed pc hrest hb⟩, hi⟩) (ih hb)

/-- The core of C15: if `s₂` makes every move that `s₁` makes, the `s₂`-walk is the `s₁`-walk continued, along `s₂`, from
the configuration at which it ended.  The continuation may have any fuel `g ≥ f`: left free, it stays the same through the
induction, and no height along the `s₁`-walk has to be compared with the fuel that remains. -/
theorem ptraverse_split (s₁ s₂ : T → List (PRel T D)) (Inv : T → D → Prop)
    (hstep : ∀ n x r, Inv n x → pfirst (s₁ n) x = some r → Inv r.dst (r.xform x))
    (hsub : ∀ n x r, Inv n x → pfirst (s₁ n) x = some r → pfirst (s₂ n) x = some r)
    (h : T → Nat) (hh : ∀ n r, r ∈ s₂ n → h r.dst < h n)
    (f : Nat) (n : T) (x : D) (hf : h n < f) (hi : Inv n x) (g : Nat) (hg : f ≤ g) :
    let a := ptraverse s₁ f n x
    let c := ptraverse s₂ g (plast n a.2) a.1
    ptraverse s₂ f n x = (c.1, a.2.dropLast ++ c.2) := by
  fun_induction ptraverse s₁ f n x with
  | case1 => exact absurd hf (Nat.not_lt_zero _)
  | case2 f n x => exact ptraverse_fuel s₂ h hh (f + 1) g n x hf (Nat.lt_of_lt_of_le hf hg)
  | case3 f n x r hr res ih =>
    have hr₂ := hsub n x r hi hr
    simp only [res, plast_cons_ptraverse, List.dropLast_cons_of_ne_nil (ptraverse_path_ne_nil _ _ _ _)]
    rw [ptraverse_of_some f hr₂,
      ih (lt_fuel (hh n r (pfirst_eq_some hr₂).1) hf) (hstep n x r hi hr) (Nat.le_of_succ_le hg)]
    rfl

def Linked (R : T → T → Prop) : List T → Prop
  | [] => True
  | [_] => True
  | a :: b :: rest => R a b ∧ Linked R (b :: rest)

theorem ptraverse_linked (s : T → List (PRel T D)) (f : Nat) (n : T) (x : D) :
    Linked (fun a b => ∃ r ∈ s a, r.dst = b) (ptraverse s f n x).2 := by
  fun_induction ptraverse s f n x with
  | case1 | case2 => trivial
  | case3 f n x r hr res ih =>
    obtain ⟨rest, e⟩ := List.head?_eq_some_iff.mp (ptraverse_head s f r.dst (r.xform x))
    rw [e] at ih
    simp only [res, e]
    exact ⟨⟨r, (pfirst_eq_some hr).1, rfl⟩, ih⟩

/-- L0 alone (no nestedness, no exclusivity, no acyclicity): the type of the field `TS.WF.idGuard`. -/
def TS.L0 (ts : TS T D) : Prop :=
  ∀ n r, r ∈ ts.succ n → r.inferential = false →
    (∀ x, r.guard x = ts.contains r.dst x) ∧ (∀ x, r.xform x = x)

theorem detect_sim (ts : TS T D) (l0 : ts.L0) (R : D → D → Prop)
    (hc : ∀ t x y, R x y → ts.contains t x = ts.contains t y) (f : Nat) (n : T) (x y : D) (h : R x y) :
    (ptraverse ts.idSucc f n x).2 = (ptraverse ts.idSucc f n y).2 := by
  refine (ptraverse_sim ts.idSucc R ?_ ?_ f n x y h).1
  · intro n r hr x y h
    have ⟨hm, hi⟩ := mem_idSucc.mp hr
    rw [(l0 n r hm hi).1 x, (l0 n r hm hi).1 y]
    exact hc r.dst x y h
  · intro n r hr x y h _
    have ⟨hm, hi⟩ := mem_idSucc.mp hr
    rw [(l0 n r hm hi).2 x, (l0 n r hm hi).2 y]; exact h

theorem detect_sound (ts : TS T D) (l0 : ts.L0) (f : Nat) (n : T) (x : D) (hc : ts.contains n x = true) :
    (ptraverse ts.idSucc f n x).1 = x ∧ ∀ t ∈ (ptraverse ts.idSucc f n x).2, ts.contains t x = true := by
  have ⟨⟨h1, _⟩, h2⟩ := ptraverse_inv ts.idSucc (fun t y => y = x ∧ ts.contains t x = true)
    (fun n y r ⟨e, _⟩ hr => by
      have ⟨hr, hg⟩ := pfirst_eq_some hr
      have ⟨hm, hi⟩ := mem_idSucc.mp hr
      have ⟨hgc, hx⟩ := l0 n r hm hi
      exact ⟨(hx y).trans e, e ▸ hgc y ▸ hg⟩) f n x ⟨rfl, hc⟩
  exact ⟨h1, fun t ht => (h2 t ht).elim fun _ h => h.2⟩

/-- C01 for any type system with L0 and a height: detection returns its input; the path starts at the root, follows
identity relations and holds only types that contain the input; no identity child of its last type contains it. -/
theorem detect_sound_most_specific (ts : TS T D) (l0 : ts.L0) (hh : ∀ n r, r ∈ ts.succ n → ts.h r.dst < ts.h n)
    (root : T) (f : Nat) (hf : ts.h root < f) (x : D) (hx : ts.contains root x = true) :
    let res := ptraverse ts.idSucc f root x
    res.1 = x ∧ res.2.head? = some root ∧
    (∀ t ∈ res.2, ts.contains t x = true) ∧
    Linked (fun a b => ∃ r ∈ ts.idSucc a, r.dst = b) res.2 ∧
    (∀ r ∈ ts.idSucc (plast root res.2), ts.contains r.dst x = false) := by
  have ⟨h1, h3⟩ := detect_sound ts l0 f root x hx
  refine ⟨h1, ptraverse_head .., h3, ptraverse_linked .., fun r hr => ?_⟩
  have hstop := ptraverse_stops ts.idSucc ts.h (fun n r hr => hh n r (mem_idSucc.mp hr).1) f root x hf
  rw [h1] at hstop
  exact (l0 _ r (mem_idSucc.mp hr).1 (mem_idSucc.mp hr).2).1 x ▸ pfirst_eq_none.mp hstop r hr

end V
