/-
  The relation table as an inductive (`Row`): a theorem about every registered relation goes by cases over its seven rows.
  `ElemWF` / `PayWF`: the element facts of `goodB` (`VModel/NumpyGood.lean`) as propositions.
-/
import VModel.Numpy
import VModel.NumpyGood
import VProofs.Lemmas.ListL
namespace V.Np
open V V.Gen

inductive Row (o : NpOracle) : Ty → Ty → (NArr → R Bool) → (NArr → R NArr) → Prop
  | objectBoolean : Row o .Object .Boolean objectIsBoolean objectToBoolean
  | stringBoolean : Row o .String .Boolean stringIsBoolean stringToBoolean
  | stringComplex : Row o .String .Complex stringIsComplex stringToComplex
  | stringDatetime : Row o .String .DateTime (stringIsDatetime o) (stringToDatetime o)
  | stringFloat : Row o .String .Float stringIsFloat stringToFloat
  | complexFloat : Row o .Complex .Float complexIsFloat complexToFloat
  | floatInteger : Row o .Float .Integer floatIsInteger floatToInteger

section
variable {o : NpOracle} {s d : Ty} {g : NArr → R Bool} {t : NArr → R NArr}

theorem Row.guard_eq (r : Row o s d g t) : guard o s d = some g := by cases r <;> rfl
theorem Row.xform_eq (r : Row o s d g t) : xform o s d = some t := by cases r <;> rfl
theorem Row.mem (r : Row o s d g t) : (s, d) ∈ numpyRelationsRegistered := by cases r <;> decide

-- `split` goes through the 8 alternatives of the `match`; `cases s <;> cases d` would go through 24 × 24 pairs
theorem Row.of_guard (h : guard o s d = some g) : ∃ t, Row o s d g t := by
  unfold guard at h
  split at h <;> cases h <;> exact ⟨_, by constructor⟩

theorem Row.of_xform (h : xform o s d = some t) : ∃ g, Row o s d g t := by
  unfold xform at h
  split at h <;> cases h <;> exact ⟨_, by constructor⟩

theorem Row.of (hg : guard o s d = some g) (ht : xform o s d = some t) : Row o s d g t := by
  obtain ⟨t', r⟩ := Row.of_guard hg
  cases r.xform_eq.symm.trans ht
  exact r

theorem Row.of_mem (o : NpOracle) (h : (s, d) ∈ numpyRelationsRegistered) : ∃ g t, Row o s d g t := by
  have all : numpyRelationsRegistered.all (fun p => (guard o p.1 p.2).isSome) = true := rfl
  obtain ⟨g, hg⟩ := Option.isSome_iff_exists.mp (List.all_eq_true.mp all _ h)
  obtain ⟨t, r⟩ := Row.of_guard hg
  exact ⟨g, t, r⟩

end

theorem mask_kind (a : NArr) : a.mask.kind = a.kind := rfl
theorem mem_mask {a : NArr} {x : NElem} : x ∈ a.mask.elems ↔ x ∈ a.elems ∧ x.null = false := by
  simp [NArr.mask, List.mem_filter]
theorem mask_mask (a : NArr) : a.mask.mask = a.mask := by
  simp only [NArr.mask, List.filter_filter, Bool.and_self]

theorem mask_eq_self {a : NArr} (h : ∀ x ∈ a.elems, x.null = false) : a.mask = a := by
  simp only [NArr.mask]
  congr
  exact List.filter_eq_self.mpr (fun x hx => by rw [h x hx]; rfl)

theorem notEmptyB_iff {f : NArr → Bool} {a : NArr} : notEmptyB f a = true ↔ a.isEmpty = false ∧ f a = true := by
  unfold notEmptyB; cases a.isEmpty <;> simp
theorem handleNullsB_iff {f : NArr → Bool} {a : NArr} : handleNullsB f a = true ↔ a.mask.isEmpty = false ∧ f a.mask = true :=
  notEmptyB_iff
-- `array_handle_nulls` over `array_not_empty`: both look at the masked array
theorem handleNullsB_notEmptyB_iff {f : NArr → Bool} {a : NArr} :
    handleNullsB (notEmptyB f) a = true ↔ a.mask.isEmpty = false ∧ f a.mask = true := by
  rw [handleNullsB_iff, notEmptyB_iff, ← and_assoc, and_self]

theorem complexContains_iff {a : NArr} : complexContains a = true ↔ a.isEmpty = false ∧ isComplexDt a.kind = true :=
  notEmptyB_iff
theorem timedeltaContains_iff {a : NArr} : timedeltaContains a = true ↔ a.isEmpty = false ∧ isTimedeltaDt a.kind = true :=
  notEmptyB_iff

theorem notEmpty_ok_true {f : NArr → R Bool} {a : NArr} : notEmpty f a = .ok true ↔ a.isEmpty = false ∧ f a = .ok true := by
  unfold notEmpty; cases a.isEmpty <;> simp
theorem handleNulls_ok_true {f : NArr → R Bool} {a : NArr} :
    handleNulls f a = .ok true ↔ a.mask.isEmpty = false ∧ f a.mask = .ok true := notEmpty_ok_true

theorem handleNulls_all_ok_true {p : NElem → Bool} {a : NArr} :
    handleNulls (fun a => .ok (a.elems.all p)) a = .ok true ↔ a.mask.isEmpty = false ∧ ∀ x ∈ a.mask.elems, p x = true := by
  rw [handleNulls_ok_true, Except.ok.injEq, List.all_eq_true]

theorem handleNulls_total {f : NArr → R Bool} {a : NArr} (h : ∃ b, f a.mask = .ok b) : ∃ b, handleNulls f a = .ok b := by
  unfold handleNulls notEmpty
  split
  · exact ⟨false, rfl⟩
  · exact h

theorem isEmpty_false_iff {a : NArr} : a.isEmpty = false ↔ ∃ x, x ∈ a.elems :=
  List.isEmpty_eq_false_iff_exists_mem

theorem mask_nonempty_of {a : NArr} (h : a.mask.isEmpty = false) : a.isEmpty = false := by
  obtain ⟨x, hx⟩ := isEmpty_false_iff.mp h
  exact isEmpty_false_iff.mpr ⟨x, (mem_mask.mp hx).1⟩

/-- which dtype kind an `np.issubdtype` test of the generated table accepts (`isIntegerDt`, `isObjectDt`: evaluated where they
are read, in `classify_of_contains`) -/
structure KindExcl (k : NpKind) : Prop where
  str : isStrDt k = true → k = .U
  bool : isBoolDt k = true → k = .b
  floating : isFloatingDt k = true → k = .f
  complex : isComplexDt k = true → k = .c
  datetime : isDatetimeDt k = true → k = .M
  timedelta : isTimedeltaDt k = true → k = .m

theorem kind_excl (k : NpKind) : KindExcl k := by
  cases k <;> exact ⟨by decide, by decide, by decide, by decide, by decide, by decide⟩

theorem firstRaise_none_iff {α : Type} (l : List (Outcome α)) : firstRaise l = none ↔ ∀ x ∈ l, ∃ a, x = .ok a := by
  induction l with
  | nil => simp [firstRaise]
  | cons o os ih => cases o <;> simp [firstRaise, ih]

theorem firstRaise_some_mem {α : Type} {l : List (Outcome α)} {c : String} (h : firstRaise l = some c) : Outcome.raises c ∈ l := by
  induction l with
  | nil => cases h
  | cons o os ih =>
    cases o with
    | raises d => cases h; exact List.mem_cons_self
    | ok v => exact List.mem_cons_of_mem _ (ih h)

theorem firstRaise_mask_none {α : Type} {f : NElem → Outcome α} {a : NArr} (h : firstRaise (a.mask.elems.map f) = none) :
    ∀ x ∈ a.mask.elems, ∃ v, f x = .ok v :=
  fun x hx => (firstRaise_none_iff _).mp h (f x) (List.mem_map.mpr ⟨x, hx, rfl⟩)

theorem mem_oks {α : Type} {l : List (Outcome α)} {v : α} : v ∈ oks l ↔ Outcome.ok v ∈ l := by
  induction l with
  | nil => simp [oks]
  | cons z zs ih => cases z <;> simp [oks, ih]

theorem oks_congr_mem {α : Type} {m m' : List (Outcome α)} (h : ∀ y, y ∈ m ↔ y ∈ m') (v : α) : v ∈ oks m ↔ v ∈ oks m' := by
  simp only [mem_oks, h]

/-- the shape of every test and transformer that converts element by element: a value no exception handler returns is
returned only if nothing raised -/
theorem match_firstRaise {α β : Type} {l : List (Outcome α)} {k : String → β} {r v : β} (hk : ∀ cls, k cls ≠ v) :
    (match firstRaise l with | some cls => k cls | none => r) = v ↔ firstRaise l = none ∧ r = v := by
  cases firstRaise l with
  | none => simp
  | some cls => simp [hk cls]

/-! In a test the handler is `option_coercion_evaluator` (`numpy/test_utils.py`): a ValueError, TypeError or AttributeError makes
the test answer `False`, any other exception escapes; `rest` is what the test goes on to ask of the converted values. -/

theorem accept_firstRaise {α : Type} {l : List (Outcome α)} {rest : R Bool}
    (h : (match firstRaise l with
      | some cls => if caughtByEvaluator cls then (.ok false : R Bool) else .error (escape cls)
      | none => rest) = .ok true) : firstRaise l = none ∧ rest = .ok true :=
  (match_firstRaise fun cls => by split <;> nofun).mp h

/-- in a transformer nothing is caught -/
theorem ok_firstRaise {α : Type} {l : List (Outcome α)} {r : R NArr} {a' : NArr} :
    (match firstRaise l with | some cls => (.error (escape cls) : R NArr) | none => r) = .ok a' ↔
      firstRaise l = none ∧ r = .ok a' :=
  match_firstRaise fun _ => nofun

theorem total_firstRaise {α : Type} {f : NElem → Outcome α} {l : List NElem} {rest : R Bool}
    (hc : ∀ x ∈ l, ∀ c, f x = .raises c → caughtByEvaluator c = true) (hr : ∃ b, rest = .ok b) :
    ∃ b, (match firstRaise (l.map f) with
      | some cls => if caughtByEvaluator cls then (.ok false : R Bool) else .error (escape cls)
      | none => rest) = .ok b := by
  cases hfr : firstRaise (l.map f) with
  | none => exact hr
  | some c =>
    obtain ⟨x, hx, hxe⟩ := List.mem_map.mp (firstRaise_some_mem hfr)
    exact ⟨false, by simp only [hc x hx c hxe, if_true]⟩

theorem stringIsBoolean_elem {a : NArr} (h : stringIsBoolean a = .ok true) :
    a.mask.isEmpty = false ∧ ∀ x ∈ a.mask.elems, ∃ p, x.lower = .ok (some p) := by
  obtain ⟨hfr, h⟩ := accept_firstRaise h
  cases hk : (oks (a.mask.elems.map (·.lower))).isEmpty with
  | true => simp [hk] at h
  | false =>
    simp only [hk, Bool.false_eq_true, if_false, Except.ok.injEq, List.any_eq_true] at h
    obtain ⟨i, _, hi⟩ := h
    obtain ⟨v, hv⟩ := List.isEmpty_eq_false_iff_exists_mem.mp hk
    obtain ⟨x₀, hx₀, _⟩ := List.mem_map.mp (mem_oks.mp hv)
    refine ⟨isEmpty_false_iff.mpr ⟨x₀, hx₀⟩, fun x hx => ?_⟩
    obtain ⟨v, hv⟩ := firstRaise_mask_none hfr x hx
    have := List.all_eq_true.mp hi v (mem_oks.mpr (hv ▸ List.mem_map.mpr ⟨x, hx, rfl⟩))
    cases v with
    | none => simp at this
    | some p => exact ⟨p, hv⟩

theorem stringIsFloat_elem {a : NArr} (h : stringIsFloat a = .ok true) :
    (∀ x ∈ a.mask.elems, ∃ v, x.fl = .ok v) ∧ ∃ x ∈ a.mask.elems, ∃ v, x.fl = .ok v ∧ v.isNan = false := by
  obtain ⟨hfr, h2⟩ := accept_firstRaise (handleNulls_ok_true.mp h).2
  refine ⟨firstRaise_mask_none hfr, ?_⟩
  -- `float_contains` of the converted array: some converted value is not NaN
  by_cases hn : (oks (a.mask.elems.map (·.fl))).all (·.isNan) = true
  · simp [hn] at h2
  · obtain ⟨v, hv, hnv⟩ := List.all_eq_false.mp (by simpa using hn)
    obtain ⟨x, hx, hxv⟩ := List.mem_map.mp (mem_oks.mp hv)
    exact ⟨x, hx, v, hxv, by simpa using hnv⟩

theorem stringIsFloat_eq {a : NArr} (hf : ∀ x ∈ a.mask.elems, ∀ c, x.fl = .raises c → caughtByEvaluator c = true) :
    stringIsFloat a =
      .ok (!a.mask.isEmpty && (firstRaise (a.mask.elems.map (·.fl))).isNone && !((oks (a.mask.elems.map (·.fl))).all (·.isNan)) &&
        !(a.mask.elems.any (fun x => (match x.fl with | .ok v => v.gtOne | _ => false) && x.firstZero))) := by
  simp only [stringIsFloat, handleNulls, notEmpty]
  by_cases he : a.mask.isEmpty = true
  · simp [he]
  · simp only [he, Bool.false_eq_true, if_false, Bool.not_false, Bool.true_and]
    cases hfr : firstRaise (a.mask.elems.map (·.fl)) with
    | some c =>
      obtain ⟨x, hx, hxe⟩ := List.mem_map.mp (firstRaise_some_mem hfr)
      simp [hf x hx c hxe]
    | none =>
      simp only [Option.isNone_none, Bool.true_and]
      by_cases hn : (oks (a.mask.elems.map (·.fl))).all (·.isNan) = true
      · simp [hn]
      · simp only [hn, Bool.false_eq_true, if_false, Bool.not_false, Bool.true_and]; rfl

theorem stringIsComplex_elem {a : NArr} (h : stringIsComplex a = .ok true) :
    (∀ x ∈ a.mask.elems, ∃ v, x.cx = .ok v) ∧ stringIsFloat a = .ok false := by
  obtain ⟨hfr, h⟩ := accept_firstRaise h
  refine ⟨firstRaise_mask_none hfr, ?_⟩
  cases hf : stringIsFloat a with
  | error e => simp [hf] at h
  | ok b => cases b with
    | true => simp [hf] at h
    | false => rfl

def Good (o : NpOracle) (a : NArr) : Prop := goodB o a = true

structure GoodParts (o : NpOracle) (a : NArr) : Prop where
  wf : ∀ x ∈ a.elems, elemWFB a.kind x = true ∧ payWFB a.kind x = true
  noRaise : noRaiseB o a = true
  oracle : oracleB o a = true

theorem good_iff {o : NpOracle} {a : NArr} : Good o a ↔ GoodParts o a := by
  simp only [Good, goodB, Bool.and_eq_true, List.all_eq_true]
  exact ⟨fun ⟨⟨wf, noRaise⟩, oracle⟩ => ⟨wf, noRaise, oracle⟩, fun h => ⟨⟨h.wf, h.noRaise⟩, h.oracle⟩⟩

structure ElemWF (k : NpKind) (x : NElem) : Prop where
  pyO : x.isBool = true ∨ x.isInt = true ∨ x.isDatetime = true → k = .O
  strK : x.isStr = true → k = .U ∨ k = .O
  boolInt : x.isBool = true → x.isInt = true
  intDt : x.isInt = true → x.isDatetime = false
  strInt : x.isStr = true → x.isInt = false ∧ x.isDatetime = false
  strEqStr : x.strEq = .ok true → x.isStr = true
  strNull : x.isStr = true → x.null = false
  keyFl : ∀ p, x.lower = .ok (some p) → x.fl.isOk = false ∧ x.cx.isOk = false

theorem elemWFB_sound {k : NpKind} {x : NElem} (h : elemWFB k x = true) : ElemWF k x := by
  simp only [elemWFB, Bool.and_eq_true, Bool.or_eq_true, Bool.not_eq_true', Bool.or_eq_false_iff, Bool.and_eq_false_imp,
    beq_iff_eq, beq_eq_false_iff_ne] at h
  obtain ⟨⟨⟨⟨⟨⟨⟨pyO, strK⟩, boolInt⟩, intDt⟩, strInt⟩, strEqStr⟩, strNull⟩, keyFl⟩ := h
  exact {
    pyO := fun hp => pyO.resolve_left fun ⟨⟨hb, hi⟩, hd⟩ => by
      rw [hb, hi, hd] at hp
      rcases hp with h | h | h <;> cases h
    strK := fun hs => strK.imp_left (·.resolve_left (by rw [hs]; exact Bool.noConfusion))
    boolInt := fun hb => boolInt.resolve_left (by rw [hb]; exact Bool.noConfusion)
    intDt := intDt
    strInt := strInt
    strEqStr := fun hse => strEqStr.resolve_left (· hse)
    strNull := strNull
    keyFl := fun p hp => by
      rw [hp] at keyFl
      simpa using keyFl }

structure PayWF (k : NpKind) (x : NElem) : Prop where
  strNoNull : k = .U → x.null = false
  float : k = .f → ∃ v, x.fl = .ok v ∧ x.null = v.isNan
  complex : k = .c → ∃ re im, x.cx = .ok (re, im) ∧ x.null = (re.isNan || im.isNan)

theorem payWFB_sound {k : NpKind} {x : NElem} (h : payWFB k x = true) : PayWF k x := by
  simp only [payWFB, Bool.and_eq_true] at h
  obtain ⟨⟨h1, h2⟩, h3⟩ := h
  refine ⟨?_, ?_, ?_⟩
  · intro hk; subst hk; simpa using h1
  · intro hk; subst hk
    cases hf : x.fl with
    | raises c => simp [hf] at h2
    | ok v => exact ⟨v, rfl, by simpa [hf] using h2⟩
  · intro hk; subst hk
    cases hc : x.cx with
    | raises c => simp [hc] at h3
    | ok p => obtain ⟨re, im⟩ := p; exact ⟨re, im, rfl, by simpa [hc] using h3⟩

theorem wf_sound {a : NArr} (h : ∀ x ∈ a.elems, elemWFB a.kind x = true ∧ payWFB a.kind x = true) :
    ∀ x ∈ a.elems, ElemWF a.kind x ∧ PayWF a.kind x :=
  fun x hx => ⟨elemWFB_sound (h x hx).1, payWFB_sound (h x hx).2⟩

theorem good_wf {o : NpOracle} {a : NArr} (h : Good o a) : ∀ x ∈ a.elems, ElemWF a.kind x ∧ PayWF a.kind x :=
  wf_sound (good_iff.mp h).wf

theorem ElemWF.not_bool {k : NpKind} {x : NElem} (w : ElemWF k x) (h : x.isInt = false) : x.isBool = false := by
  cases hb : x.isBool with
  | false => rfl
  | true => rw [w.boolInt hb] at h; cases h

/-- under the element facts (only a `str` equals its own `str()`), `_is_string`'s verdict is "every value is a str and
equals its str()": the five-element prefix test decides nothing on its own.  (In `V.NumpyProps`: the C11 check registers it
under this name.) -/
theorem _root_.V.NumpyProps.isString_iff {a : NArr} (hw : ∀ x ∈ a.elems, ElemWF a.kind x) :
    isString a = (!a.mask.isEmpty && a.mask.elems.all (fun x => x.isStr && (x.strEq == .ok true))) := by
  simp only [isString, handleNullsB, notEmptyB]
  cases he : a.mask.isEmpty with
  | true => rfl
  | false =>
    simp only [Bool.false_eq_true, if_false, Bool.not_false, Bool.true_and]
    cases h5 : (a.mask.elems.take 5).all (·.isStr) with
    | false =>
      -- some value among the first five is not a str: the full scan rejects as well
      obtain ⟨x, hx, hnx⟩ := List.all_eq_false.mp h5
      rw [Bool.not_eq_true] at hnx
      simp only [Bool.not_false, if_true]
      exact (all_false_of_mem (List.mem_of_mem_take hx) (by rw [hnx]; rfl)).symm
    | true =>
      simp only [Bool.not_true, Bool.false_eq_true, if_false]
      apply Bool.eq_iff_iff.mpr
      simp only [List.all_eq_true, Bool.and_eq_true, beq_iff_eq]
      refine ⟨fun hh x hx => ?_, fun hh x hx => by rw [(hh x hx).2]⟩
      have := hh x hx
      cases hse : x.strEq with
      | raises c =>
        rw [hse] at this
        cases this
      | ok b =>
        rw [hse] at this
        cases this
        exact ⟨(hw x (mem_mask.mp hx).1).strEqStr hse, rfl⟩

theorem containsB_congr (t : Ty) {a b : NArr} (hk : a.kind = b.kind) (hm : ∀ x, x ∈ a.elems ↔ x ∈ b.elems)
    (hw : ∀ x ∈ a.elems, ElemWF a.kind x) : containsB t a = containsB t b := by
  have hwb : ∀ x ∈ b.elems, ElemWF b.kind x := fun x hx => hk ▸ hw x ((hm x).mpr hx)
  have hmm : ∀ x, x ∈ a.mask.elems ↔ x ∈ b.mask.elems := fun x => by rw [mem_mask, mem_mask, hm]
  have ea := all_congr_mem hmm
  have e1 : a.isEmpty = b.isEmpty := isEmpty_congr_mem hm
  have e2 : a.mask.isEmpty = b.mask.isEmpty := isEmpty_congr_mem hmm
  cases t with
  | String =>
    simp only [containsB, stringContains, notEmptyB, e1, hk, NumpyProps.isString_iff hw, NumpyProps.isString_iff hwb, e2, ea]
  | Boolean =>
    simp only [containsB, booleanContains, handleNullsB, notEmptyB, e2, mask_kind, hk, ea]
    rfl
  | Complex => simp only [containsB, complexContains, notEmptyB, e1, hk]
  | DateTime =>
    simp only [containsB, datetimeContains, handleNullsB, notEmptyB, e2, mask_kind, hk, ea]
    rfl
  | Float => simp only [containsB, floatContains, handleNullsB, notEmptyB, e2, mask_kind, hk]
  | Integer =>
    simp only [containsB, integerContains, handleNullsB, notEmptyB, e2, mask_kind, hk, ea]
    rfl
  | Object =>
    simp only [containsB, objectContains, handleNullsB, notEmptyB, e2, mask_kind, hk, notExcluded, ea]
    rfl
  | TimeDelta => simp only [containsB, timedeltaContains, notEmptyB, e1, hk]
  | _ => rfl

end V.Np
