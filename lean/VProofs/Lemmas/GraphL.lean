/-
  For an arbitrary relation table satisfying `TableWF`: on a duplicate-free parent-closed node list containing the root
  type, in *any* supply order, `buildGraph` returns `closedBuilt` (an equation, `buildGraph_closed`).
-/
import VModel.Graph
namespace V

variable {T : Type} [DecidableEq T] {declared : T → List (RelDecl T)} {generic : T} {rank : T → Nat}
  {S : List T}

/-- What the proofs ask of a relation table: `generic` declares no relation; every other type has exactly one identity
relation (from its parent); a type names each source once, so `add_edge` never meets the same two types twice; `rank`
rises along every declared relation, which is what makes the relation graph acyclic. -/
structure TableWF (declared : T → List (RelDecl T)) (generic : T) (rank : T → Nat) : Prop where
  genericNone : declared generic = []
  oneIdentity : ∀ t, t ≠ generic → ((declared t).filter (fun r => !r.inferential)).length = 1
  srcNodup : ∀ t, ((declared t).map (·.src)).Nodup
  rankInc : ∀ t, ∀ r ∈ declared t, rank r.src < rank t

/-- every member's identity parent, per the table, is a member; `Backend.parentClosed` carries it over to `ParentClosed`
of a back end's type system -/
def ParentClosedL (declared : T → List (RelDecl T)) (S : List T) : Prop :=
  ∀ t ∈ S, ∀ r ∈ declared t, r.inferential = false → r.src ∈ S

instance : Decidable (ParentClosedL declared S) := by unfold ParentClosedL; infer_instance

omit [DecidableEq T] in
theorem ParentClosedL.of_mem_iff {S' : List T} (h : ∀ t, t ∈ S ↔ t ∈ S') (pc : ParentClosedL declared S) :
    ParentClosedL declared S' :=
  fun t ht r hr hi => (h _).mp (pc t ((h t).mpr ht) r hr hi)

omit [DecidableEq T] in
theorem mem_allDecls {nodes : List T} {e : Edge T} :
    e ∈ allDecls declared nodes ↔ e.dst ∈ nodes ∧ (⟨e.src, e.inferential⟩ : RelDecl T) ∈ declared e.dst := by
  simp only [allDecls, List.mem_flatMap, List.mem_map]
  constructor
  · rintro ⟨n, hn, r, hr, rfl⟩
    exact ⟨hn, hr⟩
  · rintro ⟨hn, hr⟩
    exact ⟨e.dst, hn, ⟨e.src, e.inferential⟩, hr, rfl⟩

/-- the pair `add_edge` keys an edge on: same source, same target -/
def Clash (e f : Edge T) : Prop := e.src = f.src ∧ e.dst = f.dst

theorem addEdge_noclash (es : List (Edge T)) (e : Edge T) (h : ∀ f ∈ es, ¬ Clash f e) :
    addEdge es e = es ++ [e] := by
  have : es.any (fun f => f.src == e.src && f.dst == e.dst) = false :=
    List.any_eq_false.mpr fun f hf => by simpa [Clash] using h f hf
  simp only [addEdge, this, Bool.false_eq_true, if_false]

theorem foldl_addEdge_eq (l : List (Edge T)) : ∀ acc : List (Edge T),
    (acc ++ l).Pairwise (fun e f => ¬ Clash e f) → l.foldl addEdge acc = acc ++ l := by
  induction l with
  | nil => intro acc _; exact (List.append_nil acc).symm
  | cons e l ih =>
    intro acc h
    have hacc : ∀ f ∈ acc, ¬ Clash f e := fun f hf => (List.pairwise_append.mp h).2.2 f hf e List.mem_cons_self
    rw [List.append_cons] at h ⊢
    rw [List.foldl_cons, addEdge_noclash acc e hacc]
    exact ih _ h

omit [DecidableEq T] in
theorem allDecls_pairwise (hsrc : ∀ t, ((declared t).map (·.src)).Nodup) (nodes : List T) (nd : nodes.Nodup) :
    (allDecls declared nodes).Pairwise (fun e f => ¬ Clash e f) := by
  rw [allDecls, List.pairwise_flatMap]
  refine ⟨fun n _ => ?_, nd.imp fun hne x hx y hy hc => ?_⟩
  · -- within one node: distinct sources
    have := hsrc n
    rw [List.Nodup, List.pairwise_map] at this
    exact List.pairwise_map.mpr (this.imp fun hne hc => hne hc.1)
  · -- different nodes: different targets
    obtain ⟨_, _, rfl⟩ := List.mem_map.mp hx
    obtain ⟨_, _, rfl⟩ := List.mem_map.mp hy
    exact hne hc.2

theorem inDegree_eq_zero {es : List (Edge T)} {n : T} :
    inDegree es n = 0 ↔ ∀ e ∈ es, e.dst ≠ n := by
  simp only [inDegree, List.length_eq_zero_iff, List.filter_eq_nil_iff, beq_iff_eq]

def presentEdges (declared : T → List (RelDecl T)) (S : List T) : List (Edge T) :=
  (allDecls declared S).filter (fun e => S.contains e.src)

theorem mem_presentEdges {e : Edge T} :
    e ∈ presentEdges declared S ↔
      e.dst ∈ S ∧ e.src ∈ S ∧ (⟨e.src, e.inferential⟩ : RelDecl T) ∈ declared e.dst := by
  rw [presentEdges, List.mem_filter, mem_allDecls, List.contains_iff_mem, and_assoc, and_comm (b := e.src ∈ S)]

theorem presentEdges_pairwise (hsrc : ∀ t, ((declared t).map (·.src)).Nodup) (nd : S.Nodup) :
    (presentEdges declared S).Pairwise (fun e f => ¬ Clash e f) :=
  (allDecls_pairwise hsrc S nd).sublist List.filter_sublist

theorem presentEdges_nodup (hsrc : ∀ t, ((declared t).map (·.src)).Nodup) (nd : S.Nodup) :
    (presentEdges declared S).Nodup :=
  (presentEdges_pairwise hsrc nd).imp fun hne heq => hne ⟨by rw [heq], by rw [heq]⟩

theorem presentEdges_nodup_dst (hsrc : ∀ t, ((declared t).map (·.src)).Nodup) (S : List T) (nd : S.Nodup) (n : T) :
    (((presentEdges declared S).filter (fun e => e.src == n)).map (·.dst)).Nodup := by
  rw [List.Nodup, List.pairwise_map, List.pairwise_filter]
  exact (presentEdges_pairwise hsrc nd).imp fun hne he hf heq =>
    hne ⟨(beq_iff_eq.mp he).trans (beq_iff_eq.mp hf).symm, heq⟩

theorem presentEdges_perm {S' : List T} (hp : S.Perm S') :
    (presentEdges declared S).Perm (presentEdges declared S') := by
  rw [presentEdges, funext fun e : Edge T => hp.contains_eq (a := e.src)]
  exact (hp.flatMap_right _).filter _

theorem presentEdges_restrict_perm (hsrc : ∀ t, ((declared t).map (·.src)).Nodup) {A B : List T}
    (hAB : ∀ t ∈ A, t ∈ B) (ndA : A.Nodup) (ndB : B.Nodup) {n : T} (hn : n ∈ A) :
    (((presentEdges declared B).filter (fun e => e.src == n)).filter (fun e => decide (e.dst ∈ A))).Perm
      ((presentEdges declared A).filter (fun e => e.src == n)) := by
  refine (List.perm_ext_iff_of_nodup (((presentEdges_nodup hsrc ndB).filter _).filter _)
    ((presentEdges_nodup hsrc ndA).filter _)).mpr fun e => ?_
  simp only [List.mem_filter, mem_presentEdges, decide_eq_true_eq, beq_iff_eq]
  constructor
  · rintro ⟨⟨⟨_, _, hd⟩, hs⟩, hdA⟩; exact ⟨⟨hdA, hs ▸ hn, hd⟩, hs⟩
  · rintro ⟨⟨hdA, hsA, hd⟩, hs⟩; exact ⟨⟨⟨hAB _ hdA, hAB _ hsA, hd⟩, hs⟩, hdA⟩

theorem one_identity_in (wf : TableWF declared generic rank) (pc : ParentClosedL declared S)
    {n : T} (hn : n ∈ S) (hne : n ≠ generic) :
    ∃ p, ∀ e, (e ∈ presentEdges declared S ∧ e.dst = n ∧ e.inferential = false) ↔ e = ⟨p, n, false⟩ := by
  obtain ⟨⟨p, i⟩, hf⟩ := List.length_eq_one_iff.mp (wf.oneIdentity n hne)
  have hmem : ∀ x : RelDecl T, x ∈ declared n ∧ x.inferential = false ↔ x = ⟨p, i⟩ := fun x => by
    rw [← List.mem_singleton (a := x), ← hf, List.mem_filter]; simp
  obtain ⟨hr, rfl⟩ := (hmem _).mpr rfl
  refine ⟨p, fun e => ⟨?_, ?_⟩⟩
  · rintro ⟨he, rfl, hi⟩
    obtain ⟨s, d, i⟩ := e
    subst hi
    cases (hmem ⟨s, false⟩).mp ⟨(mem_presentEdges.mp he).2.2, rfl⟩
    rfl
  · rintro rfl
    exact ⟨mem_presentEdges.mpr ⟨hn, pc n hn _ hr rfl, hr⟩, rfl, rfl⟩

theorem inDegree_presentEdges (wf : TableWF declared generic rank) (pc : ParentClosedL declared S)
    {n : T} (hn : n ∈ S) : inDegree (presentEdges declared S) n = 0 ↔ n = generic := by
  rw [inDegree_eq_zero]
  constructor
  · intro h0
    refine Decidable.byContradiction fun hne => ?_
    obtain ⟨p, hp⟩ := one_identity_in wf pc hn hne
    exact h0 _ ((hp _).mpr rfl).1 rfl
  · rintro rfl e he hd
    have := (mem_presentEdges.mp he).2.2
    rw [hd, wf.genericNone] at this
    cases this

/-- `cyclic` is left as the call of `hasCycle`: that `check_cycles` stays silent is not proved; acyclicity itself is
`TableWF.rankInc`. -/
def closedBuilt (declared : T → List (RelDecl T)) (generic : T) (S : List T) : Built T where
  nodes := S
  edges := presentEdges declared S
  missing := (allDecls declared S).filter (fun e => !S.contains e.src)
  orphaned := []
  cyclic := hasCycle S.length S (presentEdges declared S)
  root := generic

theorem buildGraph_closed (wf : TableWF declared generic rank) (nd : S.Nodup) (hg : generic ∈ S)
    (pc : ParentClosedL declared S) : buildGraph declared S = .ok (closedBuilt declared generic S) := by
  have hedges : ((allDecls declared S).filter (fun e => S.contains e.src)).foldl addEdge []
      = presentEdges declared S :=
    foldl_addEdge_eq _ [] (presentEdges_pairwise wf.srcNodup nd)
  have hroot : S.find? (fun n => inDegree (presentEdges declared S) n == 0) = some generic := by
    cases h : S.find? (fun n => inDegree (presentEdges declared S) n == 0) with
    | none => exact absurd ((inDegree_presentEdges wf pc hg).mpr rfl) (by simpa using List.find?_eq_none.mp h _ hg)
    | some b =>
      exact congrArg some ((inDegree_presentEdges wf pc (List.mem_of_find?_eq_some h)).mp (by simpa using List.find?_some h))
  have hiso : S.filter (fun n => inDegree (presentEdges declared S) n == 0 &&
      outDegree (presentEdges declared S) n == 0 && n != generic) = [] := by
    rw [List.filter_eq_nil_iff]
    intro n hn
    simp only [Bool.and_eq_true, beq_iff_eq, bne_iff_ne, inDegree_presentEdges wf pc hn]
    exact fun h => h.2 h.1.1
  have hkept : S.filter (fun n => !([] : List T).contains n) = S := List.filter_eq_self.mpr (by simp)
  cases S with
  | nil => cases hg
  | cons a as => simp only [buildGraph, hedges, hroot, hiso, hkept]; rfl

theorem mkTypeset_closed {isGeneric : T → Bool} (wf : TableWF declared generic rank)
    (hgen : isGeneric generic = true) (nd : S.Nodup) (hg : generic ∈ S) (pc : ParentClosedL declared S) :
    mkTypeset declared isGeneric S = .ok (closedBuilt declared generic S) := by
  simp only [mkTypeset, buildGraph_closed wf nd hg pc]
  exact if_pos hgen

/-- `IdPath` on a list of edges, growing at the far end; `Backend.idReach_idPath` carries it over. -/
inductive IdReach (es : List (Edge T)) : T → T → Prop where
  | refl (a : T) : IdReach es a a
  | step {a : T} (e : Edge T) : IdReach es a e.src → e ∈ es → e.inferential = false → IdReach es a e.dst

theorem idReach_of_closed (wf : TableWF declared generic rank) (pc : ParentClosedL declared S) :
    ∀ n ∈ S, IdReach (presentEdges declared S) generic n := by
  intro n
  induction hk : rank n using Nat.strongRecOn generalizing n with
  | _ k ih =>
    intro hn
    by_cases h : n = generic
    · exact h ▸ IdReach.refl _
    · obtain ⟨p, hp⟩ := one_identity_in wf pc hn h
      have he := ((hp _).mpr rfl).1
      obtain ⟨_, hpS, hdecl⟩ := mem_presentEdges.mp he
      exact IdReach.step ⟨p, n, false⟩ (ih _ (hk ▸ wf.rankInc n _ hdecl) p rfl hpS) he rfl

theorem mem_setUnion (a b : List T) (t : T) : t ∈ setUnion a b ↔ t ∈ a ∨ t ∈ b := by
  by_cases ha : t ∈ a <;> simp [setUnion, ha]

theorem mem_addTypes (a b : List T) (t : T) : t ∈ addTypes a b ↔ t ∈ a ∨ t ∈ b := mem_setUnion a b t

theorem mem_subTypes (a b : List T) (t : T) : t ∈ subTypes a b ↔ t ∈ a ∧ t ∉ b := by
  simp [subTypes, setDiff, List.mem_filter]

theorem nodup_addTypes (a b : List T) (ha : a.Nodup) (hb : b.Nodup) : (addTypes a b).Nodup := by
  refine List.nodup_append.mpr ⟨ha, hb.sublist List.filter_sublist, ?_⟩
  rintro x hx _ hy rfl
  simpa [hx] using (List.mem_filter.mp hy).2

theorem nodup_subTypes (a b : List T) (ha : a.Nodup) : (subTypes a b).Nodup :=
  ha.sublist List.filter_sublist

end V
