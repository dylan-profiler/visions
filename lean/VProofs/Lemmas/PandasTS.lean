/-
  The pandas model as a `Backend` (membership and the relation table) and the transition system `pandasTS` that the
  engine theorems are applied to; what the full-engine traversal the driver evaluates returns is the pure traversal of
  `pandasTS` (`infer_model_eq`, `detect_model_eq`).
-/
import VProofs.Lemmas.Table
import VModel.Pandas
namespace V.Pd
open V V.Gen

/-- `(backend o).graph b` unfolds to `graphOf o b` and `(backend o).ts (32 - rank ·) b` to `pandasTS o b`, so the
`Backend` lemmas apply to both as they stand -/
def backend (o : ColOracle) : Backend Ty Column :=
  { contains := containsB, guard := guard o, xform := xform o, rel := mkRel o,
    rel_eq := fun e => by
      unfold mkRel tableRel; split
      · cases guard o e.src e.dst <;> cases xform o e.src e.dst <;> rfl
      · rfl }

def pandasTS (o : ColOracle) (b : Built Ty) : TS Ty Column :=
  { succ := purify (graphOf o b), contains := containsB, h := fun t => 32 - rank t }

theorem pandasTS_L0 (o : ColOracle) (b : Built Ty) : (pandasTS o b).L0 := (backend o).ts_L0 _ b

/-- when the full-engine traversal the driver evaluates returns normally, it returned the pure traversal of `pandasTS` -/
theorem infer_model_eq (o : ColOracle) (b : Built Ty) (f : Nat) (n : Ty) (c d : Column) (p : List Ty)
    (h : traverse (graphOf o b) f n c () [] = .ok (d, p, ())) :
    ptraverse (pandasTS o b).succ f n c = (d, p) := (backend o).infer_eq _ b f n c d p h

theorem detect_model_eq (o : ColOracle) (b : Built Ty) (f : Nat) (n : Ty) (c d : Column) (p : List Ty)
    (h : traverse (graphOf o b).base f n c () [] = .ok (d, p, ())) :
    ptraverse (pandasTS o b).idSucc f n c = (d, p) := (backend o).detect_eq _ b f n c d p h

/-- `mkTypeset` succeeds on every duplicate-free parent-closed list of the 22 types of `completeSet` that holds
Generic, in whatever order the types are supplied; the typeset has exactly those nodes, its relations come from the
generated table (`FromTable`), and each node hangs under the root Generic by identity relations (`Nodes`) -/
theorem built_typeset (o : ColOracle) (S : List Ty) (nd : S.Nodup) (hg : Ty.Generic ∈ S)
    (pc : ParentClosedL declared S) (hsub : ∀ t ∈ S, t ∈ completeSet) :
    ∃ b, mkTypeset declared isGeneric S = .ok b ∧ b.root = Ty.Generic ∧ b.nodes = S ∧ FromTable b ∧
      Nodes (pandasTS o b) (fun t => t ∈ S) Ty.Generic := by
  obtain ⟨b, built, root, nodes, ft, edges⟩ := built_fromTable S nd hg pc hsub
  exact ⟨b, built, root, nodes, ft, (backend o).nodes _ C14.tableWF hg pc edges⟩

end V.Pd
