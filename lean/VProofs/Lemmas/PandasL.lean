/-
  Every `contains_op` of the backend is a test of the shape (nothing / non-empty / has a value), a test of the
  dtype and a test of every non-missing cell (`containsB_eq`); the proofs about membership use that form.
-/
import VModel.Pandas
import VModel.PandasGood
import VProofs.Lemmas.ListL
namespace V.Pd
open V V.Gen

def HasValue (c : Column) : Prop := ∃ x ∈ c.cells, x.null = false

theorem HasValue.ne_nil {c : Column} (h : HasValue c) : c.cells ≠ [] :=
  have ⟨_, hx, _⟩ := h
  List.ne_nil_of_mem hx

/-- cells of a String column: a non-missing cell is a `str` (its parser facts are present) — this is what
`stringContains` establishes for object columns and what the dtype guarantees for the string dtypes; α validates it -/
def StrCol (c : Column) : Prop := ∀ x ∈ c.cells, x.null = false → x.str.isSome = true

/-- a `str` element is never missing (H_str, second half; validated by α) -/
def StrNotNull (c : Column) : Prop := ∀ x ∈ c.cells, x.str.isSome = true → x.null = false

theorem dropna_cells (c : Column) : c.dropna.cells = c.cells.filter (fun x => !x.null) := rfl
theorem dropna_dtype (c : Column) : c.dropna.dtype = c.dtype := rfl

theorem mem_dropna {c : Column} {x : Cell} : x ∈ c.dropna.cells ↔ x ∈ c.cells ∧ x.null = false := by
  rw [dropna_cells, List.mem_filter]; simp

theorem hasnans_false_iff (c : Column) : c.hasnans = false ↔ ∀ x ∈ c.cells, x.null = false := by
  simp [Column.hasnans, List.any_eq_false]

/-- the column a function under `series_handle_nulls` is applied to -/
def nonNull (c : Column) : Column := if c.hasnans then c.dropna else c

def hasValueB (c : Column) : Bool := c.cells.any (fun x => !x.null)

theorem hasValueB_iff {c : Column} : hasValueB c = true ↔ HasValue c := by
  simp [hasValueB, HasValue]

theorem nonNull_dtype (c : Column) : (nonNull c).dtype = c.dtype := by
  unfold nonNull; split <;> rfl

theorem nonNull_cells (c : Column) : (nonNull c).cells = c.dropna.cells := by
  unfold nonNull; split
  · rfl
  · rename_i h
    rw [dropna_cells, List.filter_eq_self.mpr]
    intro x hx
    simp [(hasnans_false_iff c).mp (by simpa using h) x hx]

theorem mem_nonNull {c : Column} {x : Cell} : x ∈ (nonNull c).cells ↔ x ∈ c.cells ∧ x.null = false := by
  rw [nonNull_cells]; exact mem_dropna

theorem nonNull_all (c : Column) (P : Cell → Bool) :
    (nonNull c).cells.all P = c.cells.all (fun x => x.null || P x) := by
  rw [nonNull_cells, dropna_cells, List.all_filter]; simp

theorem nonNull_hasnans (c : Column) : (nonNull c).hasnans = false :=
  (hasnans_false_iff _).mpr fun _ hx => (mem_nonNull.mp hx).2

theorem nonNull_empty (c : Column) : (nonNull c).empty = !hasValueB c := by
  rw [Column.empty, nonNull_cells, dropna_cells, hasValueB, Bool.eq_iff_iff]
  simp [List.isEmpty_iff, List.filter_eq_nil_iff]

theorem handleNullsB_eq (f : Column → Bool) (c : Column) :
    handleNullsB f c = (!(c.hasnans && !hasValueB c) && f (nonNull c)) := by
  have := nonNull_empty c
  unfold handleNullsB nonNull at *
  cases hn : c.hasnans <;> simp_all

theorem handleNullsB_nonNull (f : Column → Bool) (c : Column) : handleNullsB f (nonNull c) = f (nonNull c) := by
  unfold handleNullsB; simp [nonNull_hasnans]

theorem notEmptyB_eq (f : Column → Bool) (c : Column) : notEmptyB f c = (!c.empty && f c) := by
  unfold notEmptyB; cases c.empty <;> rfl

theorem empty_eq (c : Column) : c.empty = (!c.hasnans && !hasValueB c) := by
  unfold Column.empty Column.hasnans hasValueB
  cases c.cells with
  | nil => rfl
  | cons a l => cases h : a.null <;> simp [h]

/-- `series_handle_nulls` and `series_not_empty` say the same in either order (`notEmpty_handle_eq`) -/
theorem handle_notEmpty_eq (f : Column → Bool) (c : Column) :
    handleNullsB (notEmptyB f) c = (hasValueB c && f (nonNull c)) := by
  rw [handleNullsB_eq, notEmptyB_eq, nonNull_empty]
  cases c.hasnans <;> cases hasValueB c <;> rfl

theorem notEmpty_handle_eq (f : Column → Bool) (c : Column) :
    notEmptyB (handleNullsB f) c = (hasValueB c && f (nonNull c)) := by
  rw [notEmptyB_eq, handleNullsB_eq, empty_eq]
  cases c.hasnans <;> cases hasValueB c <;> rfl

theorem handleNulls_eq (f : Column → R Bool) (c : Column) :
    handleNulls f c = if c.hasnans && !hasValueB c then .ok false else f (nonNull c) := by
  have := nonNull_empty c
  unfold handleNulls nonNull at *
  cases hn : c.hasnans <;> simp_all

theorem handleNulls_okB (q : Column → Bool) (c : Column) : ∃ b, handleNulls (fun c => .ok (q c)) c = .ok b := by
  rw [handleNulls_eq]; split <;> exact ⟨_, rfl⟩

theorem handleNulls_ok_true {f : Column → R Bool} {c : Column} (h : handleNulls f c = .ok true) :
    f (nonNull c) = .ok true := by
  rw [handleNulls_eq] at h
  split at h
  · cases h
  · exact h

theorem handleNulls_of_hasValue {f : Column → R Bool} {c : Column} (hv : HasValue c) :
    handleNulls f c = f (nonNull c) := by
  simp [handleNulls_eq, hasValueB_iff.mpr hv]

theorem hasValue_of_handleNulls {f : Column → R Bool} {c : Column} (h : handleNulls f c = .ok true)
    (hne : c.cells ≠ []) : HasValue c := by
  apply hasValueB_iff.mp
  have he : c.empty = false := List.isEmpty_eq_false_iff.mpr hne
  rw [handleNulls_eq] at h
  rw [empty_eq] at he
  revert h he
  cases c.hasnans <;> cases hasValueB c <;> simp

/-- the class test on `head(1)`, an early exit, is subsumed by the scan of every element that follows it -/
theorem instanceAttrs_eq_all (p q : Cell → Bool) (d : Column) :
    containsInstanceAttrs p q d = d.cells.all (fun x => p x && q x) := by
  rw [containsInstanceAttrs, if_not_false, Bool.and_eq_right_iff_imp, List.all_eq_true, List.all_eq_true]
  exact fun h x hx => (Bool.and_eq_true_iff.mp (h x (List.mem_of_mem_take hx))).1

def strEqTrue (x : Cell) : Bool := match x.strEq with | .ok b => b | .raises _ => false

/-- `_is_string`: "every value is a str, and str(v) == v everywhere" is `all` of one cell predicate -/
theorem isString_nonNull (c : Column) :
    isString (nonNull c) = c.cells.all (fun x => x.null || (x.isStr && strEqTrue x)) := by
  rw [isString, handleNullsB_nonNull, if_not_false, all_and, nonNull_all]
  rfl

/-- what the decorators of a `contains_op` ask of the column before its body runs.  `nonEmpty`: `series_not_empty`
alone; `hasValue`: with `series_handle_nulls`, in either order (`handle_notEmpty_eq`, `notEmpty_handle_eq`) -/
inductive ShapeTest where
  | any | nonEmpty | hasValue
  deriving DecidableEq

def shapeOf : Ty → ShapeTest
  | .Generic | .Sparse => .any
  | .Categorical | .Complex | .Count | .Integer | .Numeric | .Ordinal | .TimeDelta => .nonEmpty
  | _ => .hasValue

def shapeB (t : Ty) (c : Column) : Bool :=
  match shapeOf t with
  | .any => true
  | .nonEmpty => !c.empty
  | .hasValue => hasValueB c

theorem shapeB_hasValue {t : Ty} {c : Column} (h : shapeOf t = .hasValue) : shapeB t c = true ↔ HasValue c := by
  rw [shapeB, h]; exact hasValueB_iff

theorem shapeB_nonEmpty {t : Ty} {c : Column} (h : shapeOf t = .nonEmpty) : shapeB t c = true ↔ c.cells ≠ [] := by
  rw [shapeB, h]; simp [Column.empty]

def dtypeOk : Ty → DKind → Bool
  | .String => fun d => !d.isCategorical && (d.isObject || d.isStringNonObject)
  | .Boolean => fun d => d.isBool && !d.isCategorical
  | .Categorical => fun d => d.isCategorical
  | .Complex => fun d => d.isComplex
  | .Count => fun d => d.isUnsigned
  | .DateTime => fun d => d.isDatetime
  | .Float => fun d => d.isFloat
  | .Integer => fun d => d.isInteger
  | .Object => objectish
  | .Ordinal => fun d => d.isCategorical && d.catOrdered
  | .TimeDelta => fun d => d.isTimedelta
  | .Sparse => fun d => d.isSparse
  | .Numeric => fun d => d.isNumeric
  | _ => fun _ => true

def cellOk : Ty → DKind → Cell → Bool
  | .String => fun d x => !d.isObject || (x.isStr && strEqTrue x)
  | .Date => fun _ x => x.cls == "date" && x.hasDateAttrs
  | .Time => fun _ x => x.cls == "time" && x.hasTimeAttrs
  | .URL => fun _ x => x.isParseResult && x.hasUrlAttrs
  | .UUID => fun _ x => x.isUUID && x.hasUuidAttrs
  | .EmailAddress => fun _ x => x.isFQDA && x.hasEmailAttrs
  | .File => fun _ x => x.isPath && x.pathExists
  | .Image => fun _ x => x.isPath && x.pathExists && x.pathImage
  | .Geometry => fun _ x => x.isGeom
  | .IPAddress => fun _ x => x.isIP
  | .Path => fun _ x => x.isPurePath && x.pathAbs
  | _ => fun _ _ => true

theorem containsB_eq (t : Ty) (c : Column) :
    containsB t c =
      (shapeB t c && dtypeOk t c.dtype && c.cells.all (fun x => x.null || cellOk t c.dtype x)) := by
  cases t <;>
    simp only [containsB, stringContains, booleanContains, categoricalContains, complexContains, countContains,
      dateContains, datetimeContains, emailContains, fileContains, floatContains, geometryContains, imageContains,
      integerContains, ipContains, numericContains, objectContains, ordinalContains, pathContains, sparseContains,
      timeContains, timedeltaContains, urlContains, uuidContains, notSparseB, handle_notEmpty_eq, notEmpty_handle_eq,
      shapeB, shapeOf, dtypeOk, cellOk, objectish] <;>
    simp only [notEmptyB_eq, instanceAttrs_eq_all, nonNull_dtype, nonNull_all, isString_nonNull, Bool.or_true,
      all_true, Bool.and_true, Bool.true_and, Bool.if_true_left, Bool.decide_eq_true]
  -- left over: its dtype test is a nested `if` on two dtype bits, where the other types have a Boolean expression
  case String => cases c.dtype.isCategorical <;> cases c.dtype.isObject <;> simp

theorem containsB_iff {t : Ty} {c : Column} :
    containsB t c = true ↔ shapeB t c = true ∧ dtypeOk t c.dtype = true ∧
      ∀ x ∈ c.cells, x.null = false → cellOk t c.dtype x = true := by
  simp only [containsB_eq, Bool.and_eq_true, and_assoc, List.all_eq_true, Bool.or_eq_true,
    Decidable.or_iff_not_imp_left, Bool.not_eq_true]

theorem dtypeOk_of_contains {t : Ty} {c : Column} (h : containsB t c = true) : dtypeOk t c.dtype = true :=
  (containsB_iff.mp h).2.1

theorem hasValue_of_contains {t : Ty} {c : Column} (ht : shapeOf t = .hasValue) (h : containsB t c = true) :
    HasValue c :=
  (shapeB_hasValue ht).mp (containsB_iff.mp h).1

theorem contains_mono {t u : Ty} {c : Column} (h : containsB t c = true)
    (hs : shapeB t c = true → shapeB u c = true) (hd : dtypeOk t c.dtype = true → dtypeOk u c.dtype = true)
    (hc : ∀ x ∈ c.cells, x.null = false → cellOk t c.dtype x = true → cellOk u c.dtype x = true) :
    containsB u c = true :=
  have ⟨h1, h2, h3⟩ := containsB_iff.mp h
  containsB_iff.mpr ⟨hs h1, hd h2, fun x hx hn => hc x hx hn (h3 x hx hn)⟩

end V.Pd
