/-
  Every transformer of the pandas relation table but String → DateTime (a column-level oracle: `stringToDatetime_ok`)
  is, where it does not refuse the column outright, `mapCells d e g`: index and name are kept, the dtype becomes `d`,
  and each cell is converted on its own.  Shape, positions of missing values, element-wise decoding and landing are
  read off `mapCells_spec`.  How each transformer gets there: String → Float, String → Complex, Complex → Float and
  Float → Integer are `mapCells …` as they stand (`stringToFloat_eq`, `stringToComplex_eq`, `complexToFloat_eq`,
  `floatToInteger_eq`); Object → Boolean and DateTime → Date are, once their test of the whole column has passed
  (`objectToBoolean_ok`, `datetimeToDate_ok`); String → Boolean is Object → Boolean of a mapped column
  (`stringToBoolean_eq`); five of the six object-valued targets are `applyStr` (`applyStr_eq`), and String → Path picks
  one of two `applyStr` after a test of the whole column (`stringToPath_ok`, in PandasRel).
-/
import VModel.Pandas
import VProofs.Lemmas.Pointwise
namespace V.Pd
open V V.Gen V.C06

theorem firstRaise_none_iff {α : Type} (l : List (Outcome α)) :
    firstRaise l = none ↔ ∀ x ∈ l, ∃ a, x = .ok a := by
  induction l with
  | nil => simp [firstRaise]
  | cons x l ih => cases x <;> simp [firstRaise, ih]

theorem firstRaise_map_perm {α : Type} (p : Cell → Outcome α) {l l' : List Cell} (h : l.Perm l')
    (hn : firstRaise (l.map p) = none) : firstRaise (l'.map p) = none := by
  rw [firstRaise_none_iff] at hn ⊢
  intro x hx; exact hn x ((h.map p).mem_iff.mpr hx)

theorem oks_eq_filterMap {α : Type} (l : List (Outcome α)) :
    oks l = l.filterMap fun | .ok a => some a | .raises _ => none := by
  induction l with
  | nil => rfl
  | cons x l ih => cases x <;> simp [oks, ih]

theorem mem_oks {α : Type} (l : List (Outcome α)) (a : α) : a ∈ oks l ↔ Outcome.ok a ∈ l := by
  rw [oks_eq_filterMap, List.mem_filterMap]
  constructor
  · rintro ⟨x, hx, h⟩
    cases x <;> cases h
    exact hx
  · exact fun h => ⟨_, h, rfl⟩

theorem mem_oks_map {α β : Type} {g : α → Outcome β} {l : List α} {y : β} :
    y ∈ oks (l.map g) ↔ ∃ x ∈ l, g x = .ok y := by
  rw [mem_oks, List.mem_map]

theorem oks_perm {α : Type} {l l' : List (Outcome α)} (h : l.Perm l') : (oks l).Perm (oks l') := by
  rw [oks_eq_filterMap, oks_eq_filterMap]
  exact h.filterMap _

-- in `V.C06` because the C06 check lists it under that name
theorem _root_.V.C06.oks_length {α : Type} (l : List (Outcome α)) (h : firstRaise l = none) :
    (oks l).length = l.length := by
  induction l with
  | nil => rfl
  | cons a l ih =>
    cases a with
    | ok v => exact congrArg (· + 1) (ih h)
    | raises c => cases h

theorem oks_map_pointwise {α β : Type} {e : Cell → Outcome α} {g : α → β} {l : List Cell}
    (h : firstRaise (l.map e) = none) :
    Pointwise (fun x y => ∃ a, e x = .ok a ∧ y = g a) l ((oks (l.map e)).map g) := by
  induction l with
  | nil => exact .nil
  | cons x l ih =>
    rw [List.map_cons] at h ⊢
    cases hx : e x with
    | raises c => rw [hx] at h; cases h
    | ok a => rw [hx] at h; exact .cons ⟨a, hx, rfl⟩ (ih h)

def okD {α : Type} (d : α) : Outcome α → α
  | .ok a => a
  | .raises _ => d

/-- with nothing raised `oks (l.map p)` is a `map` for any default `d`, so the `Perm` lemmas of `List.map` apply to every
part of a verdict computed from it (`acc_stringIsFloat`) -/
theorem oks_map_eq {α : Type} (d : α) (p : Cell → Outcome α) (l : List Cell) (h : firstRaise (l.map p) = none) :
    oks (l.map p) = l.map (fun x => okD d (p x)) := by
  have := (oks_map_pointwise (g := id) h).imp (S := fun x y => id y = okD d (p x)) fun x y ⟨a, ha, hy⟩ => by
    rw [hy, ha]; rfl
  simpa using this.map_eq

/-- the shape of every test and transformer that converts element by element: a value no exception handler returns
is returned only if nothing raised -/
theorem match_firstRaise {α β : Type} {l : List (Outcome α)} {k : String → β} {r v : β} (hk : ∀ cls, k cls ≠ v) :
    (match firstRaise l with | some cls => k cls | _ => r) = v ↔ firstRaise l = none ∧ r = v := by
  cases firstRaise l with
  | none => simp
  | some cls => simp [hk cls]

theorem ite_ne_ok_true (b : Bool) (e : Err) : (if b = true then (.ok false : R Bool) else .error e) ≠ .ok true := by
  cases b <;> simp

/-- a test built on `coercion_test` (a caught exception gives `False`, any other escapes) accepts only if no element raised -/
theorem guard_match_none {α : Type} {l : List (Outcome α)} {b : String → Bool} {e : String → Err} {r : R Bool}
    (h : (match firstRaise l with | some cls => if b cls then (.ok false : R Bool) else .error (e cls) | _ => r) = .ok true) :
    firstRaise l = none ∧ r = .ok true := (match_firstRaise fun _ => ite_ne_ok_true _ _).mp h

def mapCells {α : Type} (d : DKind) (e : Cell → Outcome α) (g : α → Cell) (c : Column) : R Column :=
  match firstRaise (c.cells.map e) with
  | some cls => .error (escape cls)
  | _ => .ok { c with dtype := d, cells := (oks (c.cells.map e)).map g }

/-- `c'` is `c` with dtype `d` and each cell replaced by one that `R` relates to it -/
structure CellMapped (R : Cell → Cell → Prop) (d : DKind) (c c' : Column) : Prop where
  dtype : c'.dtype = d
  index : c'.index = c.index
  name : c'.name = c.name
  cells : Pointwise R c.cells c'.cells

theorem CellMapped.shape {R : Cell → Cell → Prop} {d : DKind} {c c' : Column} (m : CellMapped R d c c') :
    c'.index = c.index ∧ c'.name = c.name ∧ c'.cells.length = c.cells.length :=
  ⟨m.index, m.name, m.cells.length_eq.symm⟩

theorem mapCells_spec {α : Type} {d : DKind} {e : Cell → Outcome α} {g : α → Cell} {c c' : Column}
    (h : mapCells d e g c = .ok c') : CellMapped (fun x y => ∃ a, e x = .ok a ∧ y = g a) d c c' := by
  have ⟨h1, h2⟩ := (match_firstRaise (fun cls => by simp)).mp h
  cases h2
  exact { dtype := rfl, index := rfl, name := rfl, cells := oks_map_pointwise h1 }

/-- a conversion that never raises: `mapCells` is `List.map` -/
theorem mapCells_ok_eq (d : DKind) (f : Cell → Cell) (c : Column) :
    mapCells d .ok f c = .ok { c with dtype := d, cells := c.cells.map f } := by
  have : ∀ l : List Cell, firstRaise (l.map Outcome.ok) = none ∧ oks (l.map Outcome.ok) = l := by
    intro l; induction l with
    | nil => exact ⟨rfl, rfl⟩
    | cons a l ih => exact ⟨ih.1, by simp only [List.map_cons, oks, ih.2]⟩
  simp only [mapCells, (this c.cells).1, (this c.cells).2]

theorem applyStr_eq (c : Column) (p : StrFacts → Outcome Cell) (q : Cell → Outcome Cell) :
    applyStr c p q = mapCells .object (fun x => match x.str with | some f => p f | none => q x) id c := by
  simp only [applyStr, mapCells, List.map_id]; rfl

theorem stringToFloat_eq (c : Column) : stringToFloat c = mapCells (.fam .float) (cellFloat c.dtype) Cell.ofFloat c := rfl

/-- the cell `string_to_complex` makes of the two parts `complex()` returned -/
def complexCell (p : FloatV × FloatV) : Cell :=
  if p.1.isNan || p.2.isNan then Cell.ofComplex .nan (.fin 0 0) else Cell.ofComplex p.1 p.2

theorem stringToComplex_eq (c : Column) : stringToComplex c = mapCells (.fam .complex) cellComplex complexCell c := rfl

/-- what `astype(float)` does to one element of a complex column -/
def realPartCell (x : Cell) : Cell :=
  match x.pay with
  | .complex re _ => Cell.ofFloat re
  | _ => Cell.missing .nan

theorem complexToFloat_eq (c : Column) : complexToFloat c = mapCells (.fam .float) .ok realPartCell c :=
  (mapCells_ok_eq _ _ c).symm

/-- what `astype("Int64")` / `astype(np.int64)` does to one element of a float column -/
def intCell (x : Cell) : Cell :=
  if x.null then Cell.missing .pdNA
  else match x.pay with
    | .float v => Cell.ofInt v.toInt
    | _ => x

theorem floatToInteger_eq (c : Column) :
    floatToInteger c = mapCells (.fam (if c.hasnans then .Int else .int)) .ok intCell c :=
  (mapCells_ok_eq _ _ c).symm

theorem ok_of_ite_error {α : Type} {b : Prop} [Decidable b] {err : Err} {x : R α} {v : α}
    (h : (if b then .error err else x) = .ok v) : x = .ok v := by
  split at h
  · cases h
  · exact h

/-- what `series.dt.date` does to one element -/
def dateCell (x : Cell) : Cell :=
  if x.null then Cell.missing .nat
  else match x.pay with
    | .ts day _ _ => Cell.ofDate day
    | _ => x

theorem datetimeToDate_ok {c c' : Column} (h : datetimeToDate c = .ok c') : mapCells .object .ok dateCell c = .ok c' :=
  (mapCells_ok_eq _ _ c).trans (ok_of_ite_error h)

/-- what `astype(bool)` / `astype("boolean")` does to one element -/
def boolCell (x : Cell) : Outcome Cell :=
  if x.null then .ok (Cell.missing .pdNA)
  else match x.truth with
    | .ok b => .ok (Cell.ofBool b)
    | .raises cls => .raises cls

theorem objectToBoolean_ok {c c' : Column} (h : objectToBoolean c = .ok c') :
    mapCells (.fam (if c.hasnans then .boolean else .bool)) boolCell id c = .ok c' := by
  simp only [mapCells, List.map_id]
  exact ok_of_ite_error h

/-- what `str.lower()` and `map(mapping)` make of one element: a string that is no key of the map becomes NaN -/
def strBoolCell (x : Cell) : Cell :=
  if x.null then Cell.missing .nan
  else match x.str with
    | some f => (match f.boolKey with | some (_, b) => Cell.ofBool b | none => Cell.missing .nan)
    | none => Cell.missing .nan

theorem stringToBoolean_eq (c : Column) :
    stringToBoolean c = objectToBoolean { c with dtype := .object, cells := c.cells.map strBoolCell } := rfl

theorem stringToDatetime_ok {o : ColOracle} {c c' : Column} (h : stringToDatetime o c = .ok c') :
    ∃ r tz, o.toDatetime c.cells = .ok (r, tz) ∧
      c' = { c with dtype := .fam (if tz then .datetimetz else .datetime), cells := r } := by
  unfold stringToDatetime at h
  split at h
  · cases h
  · rename_i r tz hq
    cases h
    exact ⟨r, tz, hq, rfl⟩

end V.Pd
