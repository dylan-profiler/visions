/-
  Insertion sort by a `Nat` key (VModel.Graph.sortBy): the result is a sorted permutation, hence
  the same list for every permutation of the input when the key is injective on it (C19).
-/
import VModel.Graph
namespace V

variable {α : Type}

theorem insertSorted_perm (key : α → Nat) (x : α) (l : List α) : (insertSorted key x l).Perm (x :: l) := by
  induction l with
  | nil => exact List.Perm.refl _
  | cons y ys ih =>
    simp only [insertSorted]
    split
    · exact List.Perm.refl _
    · exact (List.Perm.cons y ih).trans (List.Perm.swap x y ys)

theorem sortBy_perm (key : α → Nat) (l : List α) : (sortBy key l).Perm l := by
  induction l with
  | nil => exact List.Perm.refl _
  | cons x xs ih =>
    simp only [sortBy, List.foldr_cons]
    exact (insertSorted_perm key x _).trans (List.Perm.cons x ih)

theorem insertSorted_pairwise (key : α → Nat) (x : α) (l : List α)
    (h : l.Pairwise (fun a b => key a ≤ key b)) :
    (insertSorted key x l).Pairwise (fun a b => key a ≤ key b) := by
  induction l with
  | nil => simp [insertSorted]
  | cons y ys ih =>
    have ⟨hy, hys⟩ := List.pairwise_cons.mp h
    simp only [insertSorted]
    split
    · rename_i hxy
      refine List.pairwise_cons.mpr ⟨?_, h⟩
      intro b hb
      rcases List.mem_cons.mp hb with rfl | hb
      · exact hxy
      · exact Nat.le_trans hxy (hy b hb)
    · rename_i hxy
      refine List.pairwise_cons.mpr ⟨?_, ih hys⟩
      intro b hb
      have := (insertSorted_perm key x ys).subset hb
      rcases List.mem_cons.mp this with rfl | hb
      · omega
      · exact hy b hb

theorem sortBy_pairwise (key : α → Nat) (l : List α) :
    (sortBy key l).Pairwise (fun a b => key a ≤ key b) := by
  induction l with
  | nil => simp [sortBy]
  | cons x xs ih => simp only [sortBy, List.foldr_cons]; exact insertSorted_pairwise key x _ ih

theorem sortBy_eq_of_perm (key : α → Nat) (hinj : ∀ a b, key a = key b → a = b)
    {l₁ l₂ : List α} (h : l₁.Perm l₂) : sortBy key l₁ = sortBy key l₂ := by
  apply List.Perm.eq_of_pairwise (le := fun a b => key a ≤ key b)
  · intro a b _ _ h1 h2; exact hinj a b (Nat.le_antisymm h1 h2)
  · exact sortBy_pairwise key l₁
  · exact sortBy_pairwise key l₂
  · exact (sortBy_perm key l₁).trans (h.trans (sortBy_perm key l₂).symm)

theorem mem_sortBy (key : α → Nat) (l : List α) (a : α) : a ∈ sortBy key l ↔ a ∈ l :=
  (sortBy_perm key l).mem_iff

end V
