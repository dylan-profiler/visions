/-
  VModel.NumpyGood — the executable hypothesis of the numpy theorems (`goodB`), evaluated by the driver on α(array) of
  every generated input; `VProofs/Lemmas/NumpyL.lean` proves it implies the `Prop`-valued invariant the proofs use.
  Definitions only.
-/
import VModel.Numpy
namespace V.Np
open V V.Gen

/-- CPython / numpy class facts about one element of an array of kind `k` -/
def elemWFB (k : NpKind) (x : NElem) : Bool :=
  -- Python bools, ints and datetimes only live in object arrays (typed arrays yield numpy scalars)
  ((!(x.isBool || x.isInt || x.isDatetime)) || k == .O) &&
  (!x.isStr || k == .U || k == .O) &&
  (!x.isBool || x.isInt) &&
  !(x.isInt && x.isDatetime) && !(x.isStr && (x.isInt || x.isDatetime)) &&
  -- only a str equals its own `str()`; a str is never a missing value
  (!(x.strEq == .ok true) || x.isStr) &&
  !(x.isStr && x.null) &&
  -- a key of the boolean maps parses neither as a float nor as a complex number
  (match x.lower with
   | .ok (some _) => !x.fl.isOk && !x.cx.isOk
   | _ => true)

/-- what the dtype guarantees about the payload: a float array holds floats (missing = NaN), a complex array complex
numbers (missing = NaN in either part), a string array no missing values -/
def payWFB (k : NpKind) (x : NElem) : Bool :=
  (k != .U || !x.null) &&
  (k != .f || (match x.fl with | .ok v => x.null == v.isNan | .raises _ => false)) &&
  (k != .c || (match x.cx with | .ok (re, im) => x.null == (re.isNan || im.isNan) | .raises _ => false))

/-- the transformer of an accepting relation does not raise -/
def noRaiseB (o : NpOracle) (a : NArr) : Bool :=
  numpyRelationsRegistered.all (fun (s, d) =>
    !containsB s a ||
    (match guard o s d, xform o s d with
     | some g, some t => (match g a with | .ok true => (match t a with | .ok _ => true | .error _ => false) | _ => true)
     | _, _ => true))

/-- a converted datetime array is well formed and no relation leaves it (it is neither a String nor an Object) -/
def dtOutOkB (r : NArr) : Bool :=
  r.elems.all (fun x => elemWFB r.kind x && payWFB r.kind x) && !stringContains r && !objectContains r

/-- `pd.to_datetime` facts on this array: where the String -> DateTime test accepts, no other relation out of String
does (false exactly on the digit strings that are numbers and dates at once), and the converted array is a DateTime -/
def oracleB (o : NpOracle) (a : NArr) : Bool :=
  !stringContains a ||
  (match stringIsDatetime o a with
   | .ok true =>
     (match stringIsFloat a with | .ok true => false | _ => true) &&
     (match stringIsBoolean a with | .ok true => false | _ => true) &&
     (match stringIsComplex a with | .ok true => false | _ => true) &&
     (match o.dtWhole a with | .ok r => datetimeContains r && dtOutOkB r | .raises _ => true)
   | _ => true)

def goodB (o : NpOracle) (a : NArr) : Bool :=
  a.elems.all (fun x => elemWFB a.kind x && payWFB a.kind x) && noRaiseB o a && oracleB o a

/-- no relation test whose source type contains the array raises on it (second executable hypothesis of the end-to-end
theorem `infer_numpy_complete`) -/
def guardsOkNB (o : NpOracle) (a : NArr) : Bool :=
  numpyRelationsRegistered.all (fun (s, d) =>
    !containsB s a || (match guard o s d with | some g => (match g a with | .ok _ => true | .error _ => false) | none => true))

end V.Np
